/- TCB level matching (C04): `getMatchingTcbLevel` is `find?` for the levels that match, and what `find?` returns is the
   first such element in listed order (`find?_decide_eq_some_iff`, which also reads the QE level lookup of C07).  The two
   status checks are `Decides` facts: what passes (C04, C07) and that neither panics (C10) are read off them. -/
import TdxModel.Verify
import TdxProofs.Lemmas.Decides

namespace Tdx.Verify
open Tdx.Gen

/-- component-wise "level not above platform" for two vectors -/
def CompsGe (plat : Bytes) (lvl : List Nat) (start : Nat) : Prop :=
  plat.length = lvl.length ∧ ∀ i (h1 : i < plat.length) (h2 : i < lvl.length), start ≤ i → lvl[i] ≤ plat[i].toNat

instance (plat : Bytes) (lvl : List Nat) (start : Nat) : Decidable (CompsGe plat lvl start) :=
  inferInstanceAs (Decidable (_ ∧ _))

/-- the comparison loop of `isCPUSvnHigherOrEqual` (`s = 0`) and `isTdxTcbSvnHigherOrEqual` (`s = 0` or `2`) -/
theorem all_zipWith_drop_iff (plat : Bytes) (lvl : List Nat) (s : Nat) :
    (List.zipWith (fun c l => decide (l ≤ c.toNat)) (plat.drop s) (lvl.drop s)).all id = true ↔
      ∀ i (h1 : i < plat.length) (h2 : i < lvl.length), s ≤ i → lvl[i] ≤ plat[i].toNat := by
  rw [List.all_eq_true, List.forall_mem_iff_forall_getElem]
  simp only [List.getElem_zipWith, List.getElem_drop, id, decide_eq_true_eq, List.length_zipWith, List.length_drop, Nat.lt_min,
    Nat.lt_sub_iff_add_lt']
  constructor
  · intro h i h1 h2 hs
    obtain ⟨k, rfl⟩ := Nat.exists_eq_add_of_le hs
    exact h k ⟨h1, h2⟩
  · intro h k hk
    exact h (s + k) hk.1 hk.2 (Nat.le_add_right s k)

theorem cpuSvnGe_iff (comps : Bytes) (lvl : List Nat) : cpuSvnGe comps lvl = true ↔ CompsGe comps lvl 0 := by
  unfold cpuSvnGe CompsGe
  rw [← all_zipWith_drop_iff comps lvl 0]
  simp only [Bool.and_eq_true, beq_iff_eq, List.drop_zero]

/-- the TDX comparison start index: 2 when TEE_TCB_SVN[1] is non-zero -/
def tdxStart (tee : Bytes) : Nat := if (tee[1]?.getD 0) > 0 then 2 else 0

theorem tdxSvnGe_eq (tee : Bytes) (lvl : List Nat) (h2 : 2 ≤ tee.length) :
    tdxSvnGe tee lvl = .ok (decide (CompsGe tee lvl (tdxStart tee))) := by
  simp only [tdxSvnGe, CompsGe, tdxStart, List.getElem?_eq_getElem (by omega : 1 < tee.length), Option.getD_some,
    ← all_zipWith_drop_iff, Bool.decide_and, Bool.decide_eq_true]
  by_cases hl : tee.length = lvl.length <;> simp [hl]

/-- a level matches the platform: SGX components, PCE SVN, TDX components (from index 2 when TEE_TCB_SVN[1] ≠ 0) are
    all not above the platform's -/
def Matches (comps : Bytes) (pcesvn : Nat) (tee : Bytes) (l : TcbLevelF) : Prop :=
  CompsGe comps l.sgx 0 ∧ l.pcesvn ≤ pcesvn ∧ CompsGe tee l.tdx (tdxStart tee)

instance (comps : Bytes) (pcesvn : Nat) (tee : Bytes) (l : TcbLevelF) : Decidable (Matches comps pcesvn tee l) :=
  inferInstanceAs (Decidable (_ ∧ _))

theorem levelMatches_eq (comps : Bytes) (pcesvn : Nat) (tee : Bytes) (l : TcbLevelF) (h2 : 2 ≤ tee.length) :
    levelMatches comps pcesvn tee l = .ok (decide (Matches comps pcesvn tee l)) := by
  simp only [levelMatches, Matches, tdxSvnGe_eq tee l.tdx h2, ← cpuSvnGe_iff, Bool.decide_and, Bool.decide_eq_true]
  cases cpuSvnGe comps l.sgx <;> cases decide (l.pcesvn ≤ pcesvn) <;> rfl

theorem getMatchingTcbLevel_eq (comps : Bytes) (pcesvn : Nat) (tee : Bytes) (levels : List TcbLevelF) (h2 : 2 ≤ tee.length) :
    getMatchingTcbLevel comps pcesvn tee levels = .ok (levels.find? fun l => decide (Matches comps pcesvn tee l)) := by
  induction levels with
  | nil => rfl
  | cons l rest ih =>
    rw [getMatchingTcbLevel, levelMatches_eq comps pcesvn tee l h2, List.find?_cons]
    cases decide (Matches comps pcesvn tee l)
    · exact ih
    · rfl

theorem find?_decide_eq_some_iff {α : Type} {P : α → Prop} [DecidablePred P] {xs : List α} {a : α} :
    xs.find? (fun x => decide (P x)) = some a ↔
      ∃ i, ∃ h : i < xs.length, xs[i] = a ∧ P a ∧ ∀ j (hj : j < i), ¬ P (xs[j]'(by omega)) := by
  simp only [List.find?_eq_some_iff_getElem, decide_eq_true_eq, Bool.not_eq_true', decide_eq_false_iff_not]
  exact ⟨fun ⟨h1, i, hi, e, hf⟩ => ⟨i, hi, e, h1, hf⟩, fun ⟨i, hi, e, h1, hf⟩ => ⟨h1, i, hi, e, hf⟩⟩

/-- the first level in listed order that matches -/
def FirstMatch (comps : Bytes) (pcesvn : Nat) (tee : Bytes) (levels : List TcbLevelF) (l : TcbLevelF) : Prop :=
  ∃ i, ∃ h : i < levels.length, levels[i] = l ∧ Matches comps pcesvn tee l ∧
    ∀ j (hj : j < i), ¬ Matches comps pcesvn tee (levels[j]'(by omega))

/-- the TDX module level: first identity named `TDX_<tee[1]>`, then its first level with isvsvn ≤ tee[0] -/
def ModuleLevel (ids : List ModuleIdF) (t0 t1 : UInt8) (m : TcbLevelF) : Prop :=
  ∃ idn, ids.find? (fun x => x.id == verify_tcbInfoTdxModuleIDPrefix ++ hex2 t1) = some idn ∧
    idn.levels.find? (fun l => decide (l.isvsvn ≤ t0.toNat)) = some m

theorem getMatchingModuleLevel_iff (ids : List ModuleIdF) (t0 t1 : UInt8) (m : TcbLevelF) :
    getMatchingModuleLevel ids t0 t1 = some m ↔ ModuleLevel ids t0 t1 m := by
  unfold getMatchingModuleLevel ModuleLevel
  cases ids.find? (fun x => x.id == verify_tcbInfoTdxModuleIDPrefix ++ hex2 t1) <;> simp

/-- The status check succeeds iff the first matching platform level is UpToDate and, when
    TEE_TCB_SVN[1] ≠ 0, the module level exists and is UpToDate as well; otherwise it fails with an error. -/
theorem tcbStatusCheck_decides (doc : TcbInfoDoc) (tee : Bytes) (pcesvn : Nat) (comps : Bytes) (h2 : 2 ≤ tee.length) :
    Decides (tcbStatusCheck Fixes.all doc tee pcesvn comps)
      (∃ platform, FirstMatch comps pcesvn tee doc.levels platform ∧ upToDate platform = true ∧
        (tee[1]'(by omega) > 0 → ∃ m, ModuleLevel doc.identities (tee[0]'(by omega)) (tee[1]'(by omega)) m ∧ upToDate m = true)) () := by
  have hf4 : Fixes.all.f4 = true := rfl
  -- both sides in terms of the two lookups
  simp only [tcbStatusCheck, getMatchingTcbLevel_eq comps pcesvn tee doc.levels h2, FirstMatch,
    ← find?_decide_eq_some_iff (P := Matches comps pcesvn tee), ← getMatchingModuleLevel_iff,
    List.getElem?_eq_getElem (by omega : 0 < tee.length), List.getElem?_eq_getElem (by omega : 1 < tee.length), hf4, Bool.true_and]
  cases doc.levels.find? fun l => decide (Matches comps pcesvn tee l) with
  | none => exact (Decides.fail _).iff (by simp)
  | some p =>
    simp only [Option.some.injEq, exists_eq_left']
    by_cases ht : tee[1]'(by omega) > 0
    · simp only [ht, ↓reduceIte, true_imp_iff]
      cases getMatchingModuleLevel doc.identities (tee[0]'(by omega)) (tee[1]'(by omega)) with
      | none => exact (Decides.fail _).iff (by simp)
      | some m => exact (Decides.ite_err fun _ => Decides.guard' _ _).iff (by simp)
    · simp only [ht, ↓reduceIte, false_imp_iff, and_true]
      exact Decides.guard' _ _

/-- `readQeTcbStatus` + `checkQeTcbStatus`: the first level not above the report's ISVSVN exists and is UpToDate -/
theorem qeStatusCheck_decides (levels : List TcbLevelF) (isvsvn : Nat) :
    Decides (qeStatusCheck levels isvsvn)
      (∃ l, levels.find? (fun l => decide (l.isvsvn ≤ isvsvn)) = some l ∧ upToDate l = true) () := by
  unfold qeStatusCheck
  cases levels.find? fun l => decide (l.isvsvn ≤ isvsvn) with
  | none => exact (Decides.fail _).iff (by simp)
  | some l => exact (Decides.guard' _ _).iff (by simp)

end Tdx.Verify
