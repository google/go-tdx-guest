/- validate.go: each check as a `Decides` fact (Lemmas/Decides.lean), with the loop and bit-mask lemmas they need -/
import TdxModel.Validate
import TdxProofs.Lemmas.AbiCheck

namespace Tdx.Validate
open Tdx.Abi

/-! `multierr.Combine` succeeds iff every argument does -/

theorem combine_nil : Decides (combine []) True () := .pure ()

theorem combine_cons {r : Outcome Unit} {rs} {P Q : Prop} (h : Decides r P ()) (hs : Decides (combine rs) Q ()) :
    Decides (combine (r :: rs)) (P ∧ Q) () := by
  rcases h.cases with ⟨p, rfl⟩ | ⟨p, e, rfl⟩
  · -- an argument that succeeded drops out
    have e : combine (.ok () :: rs) = combine rs := by
      simp only [combine, List.any_cons]
      rfl
    rw [e]
    exact hs.iff (by simp [p])
  · -- an argument that failed makes the whole fail, unless another one panics: the tail does not panic, so none does
    have np : rs.any (·.isPanic) = false := by
      cases hp : rs.any (·.isPanic)
      · rfl
      · refine absurd ?_ hs.ne_panic
        unfold combine
        rw [hp]
        rfl
    refine ⟨fun pq => absurd pq.1 p, fun _ => ⟨"combined", ?_⟩⟩
    simp only [combine, List.any_cons, np]
    rfl

theorem byteCheck_decides {size : Nat} {given req : Bytes} :
    Decides (byteCheck size given req) (req = [] ∨ (req.length = size ∧ req = given)) () := by
  unfold byteCheck
  refine (Decides.ite_ok fun _ => .ite_err fun _ => .ite_err fun _ => .pure ()).iff ?_
  simp

theorem rtmrLoop_decides (size : Nat) (given : List Bytes) (i : Nat) (req : List Bytes) (hlen : i + req.length ≤ given.length) :
    Decides (byteCheckRtmrLoop size given i req)
      (∀ j (hj : j < req.length), req[j] = [] ∨ (req[j].length = size ∧ given[j + i]? = some req[j])) () := by
  induction req generalizing i with
  | nil => exact (Decides.pure ()).iff (by simp)
  | cons bs rest ih =>
    simp only [List.length_cons] at hlen
    have hi : i < given.length := by omega
    unfold byteCheckRtmrLoop
    rw [List.getElem?_eq_getElem hi]
    refine (byteCheck_decides.bind fun _ => ih (i + 1) (by omega)).iff (.trans ?_ Nat.forall_lt_succ_left'.symm)
    simp only [List.getElem_cons_zero, List.getElem_cons_succ, Nat.zero_add, List.getElem?_eq_getElem hi, Option.some.injEq,
      Nat.add_right_comm _ 1, ← Nat.add_assoc, eq_comm (a := bs)]

theorem byteCheckRtmr_decides {size : Nat} {given req : List Bytes} (hg : given.length = 4) :
    Decides (byteCheckRtmr size given req)
      (req = [] ∨ (req.length = 4 ∧ ∀ j (hj : j < req.length), req[j] = [] ∨ (req[j].length = size ∧ given[j]? = some req[j]))) () := by
  unfold byteCheckRtmr
  refine (Decides.ite_ok fun _ => .ite_err fun h4 => rtmrLoop_decides size given 0 req ?_).iff ?_
  · simp [gen_const] at h4; omega
  · simp [gen_const]

theorem byteCheckAny_decides {size : Nat} {given : Bytes} {allowed : List Bytes} :
    Decides (byteCheckAny size given allowed)
      (allowed = [] ∨ ∃ e ∈ allowed, e = [] ∨ (e.length = size ∧ e = given)) () := by
  unfold byteCheckAny
  refine (Decides.ite_ok fun _ => .ite_ok fun _ => .fail "no AnyMrTd matched").iff ?_
  simp [byteCheck_decides.isOk_iff]

theorem goLE16_of_len2 (b : Bytes) (h : b.length = 2) : goLE16 b = .ok (le16 b) := by
  match b, h with
  | [x, y], _ => rfl

theorem bv_and_eq_right_iff (x f : BitVec 64) : (x &&& f = f) ↔ ∀ i, i < 64 → f.getLsbD i = true → x.getLsbD i = true := by
  simp only [BitVec.eq_of_getLsbD_eq_iff, BitVec.getLsbD_and, Bool.and_eq_right_iff_imp]

theorem bv_and_not_eq_zero_iff (x f : BitVec 64) : (x &&& ~~~f = 0#64) ↔ ∀ i, i < 64 → x.getLsbD i = true → f.getLsbD i = true := by
  simp only [BitVec.eq_of_getLsbD_eq_iff, BitVec.getLsbD_and, BitVec.getLsbD_not, BitVec.getLsbD_zero]
  refine forall_congr' fun i => forall_congr' fun hi => ?_
  cases x.getLsbD i <;> cases f.getLsbD i <;> simp [hi]

theorem validateMask_decides (size : Nat) {value : Bytes} {f1 f0 : BitVec 64} (hl : value.length = size) (hs : size ≠ 0) :
    Decides (validateMask size value f1 f0)
      ((∀ i, i < 64 → f1.getLsbD i = true → (le64 value).getLsbD i = true) ∧
       (∀ i, i < 64 → (le64 value).getLsbD i = true → f0.getLsbD i = true)) () := by
  unfold validateMask
  refine (Decides.ite_ok fun _ => .ite_err fun _ => .ite_err fun _ => .ite_err fun _ => .pure ()).iff ?_
  rw [← bv_and_eq_right_iff, ← bv_and_not_eq_zero_iff]
  simp [hl, hs]

theorem svnLoop_ok (qs : List UInt8) (i : Nat) (opt : Bytes) (hlen : i + qs.length ≤ opt.length) :
    ∃ b, svnLoop qs i opt = .ok b ∧ (b = true ↔ ∀ j (hj : j < qs.length), opt[j + i]'(by omega) ≤ qs[j]) := by
  induction qs generalizing i with
  | nil => exact ⟨true, by simp [svnLoop]⟩
  | cons q rest ih =>
    simp only [List.length_cons] at hlen
    have hi : i < opt.length := by omega
    unfold svnLoop
    rw [List.getElem?_eq_getElem hi]
    by_cases hlt : q < opt[i]
    · refine ⟨false, by simp [hlt], ?_⟩
      simp only [Bool.false_eq_true, false_iff]
      intro hall
      have h0 := hall 0 (Nat.zero_lt_succ _)
      simp only [Nat.zero_add, List.getElem_cons_zero] at h0
      exact absurd hlt (UInt8.not_lt.mpr h0)
    · obtain ⟨b, hb, hspec⟩ := ih (i + 1) (by omega)
      refine ⟨b, by simp [hlt, hb], hspec.trans (.trans ?_ Nat.forall_lt_succ_left'.symm)⟩
      simp only [List.getElem_cons_zero, List.getElem_cons_succ, Nat.zero_add, UInt8.not_lt.mp hlt, true_and, Nat.add_assoc,
        Nat.add_comm 1]

/-- `if !isSvnHigherOrEqual(q, o) { return err }` in front of a check -/
theorem svn_guard_decides {β} {f : Unit → Outcome β} {Q : Prop} {w : β} (q : Bytes) (o : Option Bytes) (e : String)
    (hl : olen o = 0 ∨ q.length ≤ olen o) (hf : Decides (f ()) Q w) :
    Decides (isSvnHigherOrEqual q o >>= fun ok => guard' ok e >>= f)
      ((obytes o = [] ∨ ∀ j (h1 : j < (obytes o).length) (h2 : j < q.length), (obytes o)[j] ≤ q[j]) ∧ Q) w := by
  unfold isSvnHigherOrEqual
  by_cases h0 : olen o = 0
  · have he : obytes o = [] := List.eq_nil_of_length_eq_zero h0
    simp only [h0, beq_self_eq_true, if_true]
    exact ((Decides.guard' true e).bind fun _ => hf).iff (by simp [he])
  · have hne : obytes o ≠ [] := fun e => h0 (by unfold olen; unfold obytes at e; rw [e]; rfl)
    obtain ⟨b, hb, hspec⟩ := svnLoop_ok q 0 (obytes o) (by have : (obytes o).length = olen o := rfl; omega)
    simp only [h0, beq_iff_eq, if_false]
    rw [bind_eq hb]
    refine ((Decides.guard' b e).bind fun _ => hf).iff ?_
    rw [hspec]
    simp only [hne, false_or, Nat.add_zero]
    exact and_congr_left' ⟨fun h j _ h2 => h j h2, fun h j h2 => h j _ h2⟩

theorem not_blt_eq_true_iff (a b : Nat) : (!(Nat.blt a b)) = true ↔ b ≤ a := by
  rw [Bool.not_eq_true', ← Bool.not_eq_true, Nat.blt_eq, Nat.not_lt]

/-- the shape `Meets` (Props/C08.lean) gives the TEE_TCB_SVN expectation, from the size check and the loop's condition -/
theorem svn16_iff {a b : Bytes} (hb : b.length = 16) :
    (a.length = 0 ∨ a.length = 16) ∧ (a = [] ∨ ∀ j (h1 : j < a.length) (h2 : j < b.length), a[j] ≤ b[j]) ↔
      a = [] ∨ ∃ (hl : a.length = 16) (ht : b.length = 16), ∀ j (hj : j < 16), a[j]'(hl ▸ hj) ≤ b[j]'(ht ▸ hj) := by
  constructor
  · rintro ⟨h0 | h16, h⟩
    · exact .inl (List.eq_nil_of_length_eq_zero h0)
    · exact h.imp_right fun h => ⟨h16, hb, fun j hj => h j _ _⟩
  · rintro (rfl | ⟨hl, _, h⟩)
    · exact ⟨.inl rfl, .inl rfl⟩
    · exact ⟨.inr hl, .inr fun j h1 _ => h j (hl ▸ h1)⟩

/-- in the shape `Meets` gives the three version expectations -/
theorem minVersionCheck_decides (h : Header) (t : TdQuoteBody) (o : Options)
    (hq : h.qeSvn.length = 2) (hp : h.pceSvn.length = 2) (ht : t.teeTcbSvn.length = 16) :
    Decides (minVersionCheck' true h t o)
      ((obytes o.minimumTeeTcbSvn = [] ∨ ∃ (hl : (obytes o.minimumTeeTcbSvn).length = 16) (ht : t.teeTcbSvn.length = 16),
          ∀ j (hj : j < 16), (obytes o.minimumTeeTcbSvn)[j]'(hl ▸ hj) ≤ t.teeTcbSvn[j]'(ht ▸ hj)) ∧
       o.minimumQeSvn ≤ le16 h.qeSvn ∧ o.minimumPceSvn ≤ le16 h.pceSvn) () := by
  unfold minVersionCheck'
  -- `← not_blt_eq_true_iff` writes the two SVN expectations `m ≤ v` as the Booleans the guards test, so that
  -- `Decides.guard'` applies to them as they stand
  simp only [↓reduceIte, gen_const, ← not_blt_eq_true_iff, bind_eq (goLE16_of_len2 _ hq), bind_eq (goLE16_of_len2 _ hp)]
  have hlen : olen o.minimumTeeTcbSvn = (obytes o.minimumTeeTcbSvn).length := rfl
  -- size check, loop and the two SVN guards; their conditions are brought to the shape of `Meets` by `svn16_iff` …
  refine ((Decides.guard' _ _).bind fun hsz => svn_guard_decides _ _ _ (by simp at hsz; omega)
    ((Decides.guard' _ _).bind fun _ => Decides.guard' _ _)).iff
    (Iff.trans ?_ (and_assoc.symm.trans (and_congr_left' (svn16_iff ht))))
  -- … once they are read as lengths (`List.length_eq_zero_iff` would turn `length = 0` into `= []` on one side only)
  simp [hlen, -List.length_eq_zero_iff]

end Tdx.Validate
