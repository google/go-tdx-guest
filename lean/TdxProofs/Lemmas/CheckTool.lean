/-
  The check tool (C19): what the repaired `parseConfig` and error classification give, which statuses `main` can end
  with under any variant, `errors.As` through `%w` wrappers, the sized byte flags.
  (The namespace is `Tdx.Lemmas.CheckTool`, not the model's as in the other lemma files: `open` both.)
-/
import TdxModel.CheckTool
import TdxProofs.Lemmas.Basic

namespace Tdx.Lemmas.CheckTool
open Tdx.CheckTool

theorem ptrsOf_fixed (cfg : ConfigArg) :
    ptrsOf fixed cfg =
      if configReadable cfg then some ⟨some (baseOf cfg).header, some (baseOf cfg).body, (baseOf cfg).rot⟩ else none := by
  cases cfg <;> rfl

theorem ptrsOf_fixed_unreadable : ptrsOf fixed .unreadable = none := rfl

/-- repaired library + repaired tool: the error of a failed download is recognised, no other is -/
theorem clarify_fixed (c : VCause) : clarify fixed.crlTarget (fixed.libError c) = c.isDownload := by
  cases c <;> rfl

theorem restOk_split (f : Flags) :
    f.restOk = ((f.checkCrl.ok && f.getCollateral.ok && f.trustedRoots.ok) &&
                (f.minimumQeSvn.ok && f.minimumPceSvn.ok && f.rtmrs.ok)) := by
  simp only [Flags.restOk, Bool.and_assoc]

theorem exitCodes : exitTool = 1 ∧ exitVerify = 2 ∧ exitNetwork = 3 ∧ exitPolicy = 4 := ⟨rfl, rfl, rfl, rfl⟩

/-- The statuses `main` can end with, for any variant: the flag package's, the four fixed ones, and the network
    status, the last only where `clarify` recognises the library's error. -/
theorem toolV_ne_exit {v : Variant} {L : Library} {i : ToolInput} {n : Nat} (h0 : n ≠ v.flagPkgExit) (h1 : n ≠ exitTool)
    (h2 : n ≠ exitVerify) (h4 : n ≠ exitPolicy) (hz : n ≠ 0) (hn : ∀ c, clarify v.crlTarget (v.libError c) = false) :
    toolV v L i ≠ .exit n := by
  have e : ∀ {m}, n ≠ m → Run.exit m ≠ .exit n := fun h h' => h (Run.exit.inj h').symm
  unfold toolV
  refine ite_ne (e h0) (ite_ne (e h1) ?_)
  -- no config; then the four rows of the match on the two merges
  split
  · exact e h1
  split
  · exact Run.noConfusion
  · exact Run.noConfusion
  · refine ite_ne (e h1) (ite_ne (e h1) (ite_ne (e h1) ?_))
    split
    · rw [hn]; exact e h2
    · exact ite_ne (e h1) (ite_ne (e h4) (e hz))
  · exact e h1

/-- `%w` wrappers that add context are transparent to `errors.As` for every typed target -/
theorem errorsAs_wrapN {n : Nat} {e : GoErr} {t : ErrType} (ht : t ≠ .other) :
    errorsAs (GoErr.wrapN n e) t = errorsAs e t := by
  induction n with
  | zero => rfl
  | succ n ih =>
    rw [← ih]
    cases t with
    | other => exact absurd rfl ht
    | _ => rfl

/-- the ten sized byte flags: `BodyField.all` lists every field -/
theorem bytesOk_eq_false {f : Flags} (h : f.qeVendorId.ok qeVendorIdSize = false ∨ ∃ k, (f.body k).ok k.size = false) :
    f.bytesOk = false := by
  unfold Flags.bytesOk
  rcases h with h | ⟨k, h⟩
  · rw [h]; rfl
  · rw [Bool.and_eq_false_iff, List.all_eq_false]
    exact .inr ⟨k, by cases k <;> decide, by simp [h]⟩

end Tdx.Lemmas.CheckTool
