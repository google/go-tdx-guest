/- The guest client (C15): what `getReport` and the device path of `GetRawQuote` decide. -/
import TdxModel.Client
import TdxProofs.Lemmas.Decides

namespace Tdx.Client

theorem attestSuccess_eq : attestSuccess = 0 := rfl

theorem dataWithReport_len (r : Bytes) : (dataWithReport r).length = reqBuf := by
  unfold dataWithReport zeros
  simp only [List.length_append, List.length_replicate, List.length_take]
  have : repSize ≤ reqBuf := by decide
  omega

theorem dataAfter_len {s : DevScript} (hb : ∀ b, s.buf = some b → b.length = reqBuf) (r : Bytes) :
    (dataAfter s r).length = reqBuf := by
  unfold dataAfter
  cases h : s.buf with
  | none => exact dataWithReport_len r
  | some b => exact hb b h

theorem getReport_decides (s : DevScript) : Decides (getReport s) (s.repErr = false ∧ s.repRes = 0) s.report := by
  unfold getReport
  exact (Decides.ite_err fun _ => .ite_err fun _ => .pure _).iff (by simp [attestSuccess_eq])

/-- What `getRawQuoteViaDevice` returns: the first `OutLen` bytes the device left, under the seven conditions; an
    error otherwise. Of the device it only asks that what it writes into the buffer has the buffer's size. -/
theorem result_decides {s : DevScript} (hb : ∀ b, s.buf = some b → b.length = reqBuf) :
    Decides (result s)
      (s.repErr = false ∧ s.repRes = 0 ∧ s.qErr = false ∧ s.qRes = 0 ∧ s.status = 0 ∧ 0 < s.outLen ∧ s.outLen ≤ reqBuf)
      ((dataAfter s s.report).take s.outLen) := by
  unfold result
  rcases (getReport_decides s).cases with ⟨c, h⟩ | ⟨c, e, h⟩
  · rw [h]
    -- the three refusals of a nonzero status differ in the message only: one `.err (if … )`, as `ite_err` wants it
    simp only [← apply_ite Outcome.err]
    -- four refusals (ioctl error, result, status, OutLen out of range), then the slice, which the last refusal keeps in range
    refine (Decides.ite_err fun _ => .ite_err fun _ => .ite_err fun _ => .ite_err fun hlen =>
      .of_eq (slice_eq ⟨Nat.zero_le _, ?_⟩)).iff ?_
    · rw [dataAfter_len hb]
      omega
    · simp [c, attestSuccess_eq, Nat.pos_iff_ne_zero]
  · rw [h]
    exact (Decides.fail e).iff ⟨False.elim, fun p => c ⟨p.1, p.2.1⟩⟩

end Tdx.Client
