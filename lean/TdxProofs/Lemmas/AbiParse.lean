/-
  abi: the parser.  Each level `…ToProto` decides a layout condition `…OK b` on its own input and returns the
  record of slices `…Of b` (`Decides`): that is at once what is accepted, what is returned, and that nothing
  panics.  Offsets are relative to the level's input; `AbiLayout` turns them into absolute ones.

  The parser functions take a first argument `guarded`: `true` is the code with its length guards (the repaired
  parser, which the property theorems are about), `false` the parser of finding F1.  `sub b lo hi` is the total
  slice of TdxModel/AbiSpec.lean (`(b.take hi).drop lo`); `slice_eq_sub` says when the Go slice agrees with it.
-/
import TdxProofs.Lemmas.AbiCheck

namespace Tdx.Abi

theorem sub_eq_take_drop (x : Bytes) (lo hi : Nat) : sub x lo hi = (x.drop lo).take (hi - lo) := by
  simp [sub, List.drop_take]

@[simp] theorem length_sub (x : Bytes) (lo hi : Nat) : (sub x lo hi).length = min hi x.length - lo := by
  simp [sub]

theorem sub_drop (x : Bytes) (k lo hi : Nat) : sub (x.drop k) lo hi = sub x (k + lo) (k + hi) := by
  unfold sub
  rw [List.take_drop, List.drop_drop]

theorem sub_sub (x : Bytes) (k m lo hi : Nat) (h : k + hi ≤ m) : sub (sub x k m) lo hi = sub x (k + lo) (k + hi) :=
  take_drop_take_drop x k m lo hi h

theorem drop_sub (x : Bytes) (k m lo : Nat) : (sub x k m).drop lo = sub x (k + lo) m := by
  unfold sub
  rw [List.drop_drop]

theorem sub_zero_length (x : Bytes) : sub x 0 x.length = x := by simp [sub]

theorem sub_to_length (x : Bytes) (k : Nat) : sub x k x.length = x.drop k := by simp [sub]

theorem sub_prefix (x : Bytes) (hi : Nat) (h : hi = x.length) : sub x 0 hi = x := by
  subst h; simp [sub]

/-- inside the first `n` bytes of an input known to have that many; so are the other lemmas named `…_le`: their side
    conditions compare numerals and are closed by `decide` -/
theorem length_sub_le {x : Bytes} {n : Nat} (h : n ≤ x.length) {lo hi : Nat} (h2 : hi ≤ n) : (sub x lo hi).length = hi - lo := by
  rw [length_sub, Nat.min_eq_left (Nat.le_trans h2 h)]

theorem le_length_sub {x : Bytes} {n : Nat} (h : n ≤ x.length) {lo hi k : Nat} (h2 : hi ≤ n) (h3 : k ≤ hi - lo) :
    k ≤ (sub x lo hi).length :=
  length_sub_le h h2 ▸ h3

theorem sub_sub_le (x : Bytes) {k m M : Nat} (h : M ≤ m) {lo hi : Nat} (h2 : k + hi ≤ M) :
    sub (sub x k m) lo hi = sub x (k + lo) (k + hi) :=
  sub_sub x k m lo hi (Nat.le_trans h2 h)

theorem slice_eq_sub {b : Bytes} {lo hi : Nat} (h1 : lo ≤ hi) (h2 : hi ≤ b.length) : slice b lo hi = .ok (sub b lo hi) :=
  slice_eq ⟨h1, h2⟩

theorem slice_eq_sub_le {b : Bytes} {n : Nat} (h : n ≤ b.length) {lo hi : Nat} (h1 : lo ≤ hi) (h2 : hi ≤ n) :
    slice b lo hi = .ok (sub b lo hi) :=
  slice_eq_sub h1 (Nat.le_trans h2 h)

/-- turns the lengths of dropped inputs (`k ≤ (b.drop j).length`) into positions in `b`, so that the layout conditions
    reach `omega` with few truncated subtractions -/
theorem pos_le_sub {n m k : Nat} (h : 0 < n) : n ≤ m - k ↔ k + n ≤ m := by omega

def hdrOf (b : Bytes) : Header :=
  ⟨le16 (sub b 0 2), le16 (sub b 2 4), le32 (sub b 4 8), sub b 8 10, sub b 10 12, sub b 12 28, sub b 28 48⟩

/-- version 4, ECDSA-256 attestation key, TEE type TDX -/
def HdrOK (b : Bytes) : Prop := le16 (sub b 0 2) = 4 ∧ le16 (sub b 2 4) = 2 ∧ le32 (sub b 4 8) = 129

def bodyOf (b : Bytes) : TdQuoteBody :=
  ⟨sub b 0 16, sub b 16 64, sub b 64 112, sub b 112 120, sub b 120 128, sub b 128 136, sub b 136 184, sub b 184 232,
   sub b 232 280, sub b 280 328, [sub b 328 376, sub b 376 424, sub b 424 472, sub b 472 520], sub b 520 584⟩

def reportOf (b : Bytes) : EnclaveReport :=
  ⟨sub b 0 16, le32 (sub b 16 20), sub b 20 48, sub b 48 64, sub b 64 96, sub b 96 128, sub b 128 160, sub b 160 256,
   le16 (sub b 256 258), le16 (sub b 258 260), sub b 260 320, sub b 320 384⟩

theorem checkHeader_hdrOf {b : Bytes} (h : 48 ≤ b.length) : checkHeader (some (hdrOf b)) = .ok () ↔ HdrOK b := by
  rw [checkHeader_ok_iff]
  simp (disch := decide) only [hdrOf, HdrOK, length_sub_le h, and_true]

theorem checkTDQuoteBody_bodyOf {b : Bytes} (h : 584 ≤ b.length) : checkTDQuoteBody (some (bodyOf b)) = .ok () := by
  rw [checkTDQuoteBody_ok_iff]
  simp (disch := decide) only [bodyOf, length_sub_le h, List.length_cons, List.length_nil, List.mem_cons, List.not_mem_nil,
    or_false, forall_eq_or_imp, forall_eq, Nat.reduceSub, Nat.reduceAdd, and_self]

theorem checkQeReport_reportOf {b : Bytes} (h : 384 ≤ b.length) : checkQeReport (some (reportOf b)) = .ok () := by
  rw [checkQeReport_ok_iff]
  simp (disch := decide) only [reportOf, length_sub_le h, le16_lt, Nat.reduceSub, and_self]

theorem headerToProto_decides {b : Bytes} (h : 48 ≤ b.length) : Decides (headerToProto b) (HdrOK b) (hdrOf b) := by
  unfold headerToProto
  simp (disch := decide) only [gen_const, slice_eq_sub_le h, ok_bind]
  exact .check (checkHeader_ne_panic _) (checkHeader_hdrOf h) _

theorem tdQuoteBodyToProto_eq {b : Bytes} (h : 584 ≤ b.length) : tdQuoteBodyToProto b = .ok (bodyOf b) := by
  unfold tdQuoteBodyToProto
  simp (disch := decide) only [gen_const, Nat.reduceAdd, Nat.reduceMul, slice_eq_sub_le h, ok_bind]
  exact bind_eq (checkTDQuoteBody_bodyOf h)

theorem enclaveReportToProto_eq {b : Bytes} (h : 384 ≤ b.length) : enclaveReportToProto b = .ok (reportOf b) := by
  unfold enclaveReportToProto
  simp (disch := decide) only [gen_const, slice_eq_sub_le h, ok_bind]
  exact bind_eq (checkQeReport_reportOf h)

/-! ### the variable-length tail, each level relative to its own input -/

def authOf (b : Bytes) : QeAuthData := ⟨le16 (sub b 0 2), sub b 2 (2 + le16 (sub b 0 2))⟩
def AuthOK (b : Bytes) : Prop := 2 ≤ b.length ∧ 2 + le16 (sub b 0 2) ≤ b.length

theorem checkQeAuthData_authOf {b : Bytes} (h : AuthOK b) : checkQeAuthData (some (authOf b)) = .ok () := by
  rw [checkQeAuthData_ok_iff]
  exact ⟨le16_lt _, by have := h.2; simp only [authOf, length_sub]; omega⟩

/-- also returns the offset just behind the data -/
theorem qeAuthDataToProto_decides (b : Bytes) :
    Decides (qeAuthDataToProto true b) (AuthOK b) (authOf b, 2 + le16 (sub b 0 2)) := by
  unfold qeAuthDataToProto
  simp only [gen_const, ↓reduceIte]
  refine .guard_bind decide_eq_true_iff fun h0 => ?_
  rw [slice_eq_sub (by decide) h0, ok_bind]
  refine .guard_bind_last decide_eq_true_iff fun h1 => ?_
  rw [slice_eq_sub (by omega) h1, ok_bind]
  exact bind_eq (checkQeAuthData_authOf ⟨h0, h1⟩)

def pckOf (b : Bytes) : PckChainData := ⟨le16 (sub b 0 2), le32 (sub b 2 6), b.drop 6⟩
def PckOK (b : Bytes) : Prop := 6 ≤ b.length ∧ le16 (sub b 0 2) = 5 ∧ le32 (sub b 2 6) = b.length - 6

theorem checkPckChain_pckOf (b : Bytes) :
    checkPckChain (some (pckOf b)) = .ok () ↔ le16 (sub b 0 2) = 5 ∧ le32 (sub b 2 6) = b.length - 6 := by
  rw [checkPckChain_ok_iff, pckOf, List.length_drop]

theorem pckCertificateChainToProto_decides (b : Bytes) : Decides (pckCertificateChainToProto true b) (PckOK b) (pckOf b) := by
  unfold pckCertificateChainToProto
  simp only [gen_const, ↓reduceIte]
  refine .guard_bind decide_eq_true_iff fun h0 => ?_
  simp (disch := decide) only [slice_eq_sub_le h0, sliceFrom_eq_drop h0, ok_bind]
  exact .check (checkPckChain_ne_panic _) (checkPckChain_pckOf b) _

/-- QE report 384 ‖ signature 64 ‖ auth data ‖ PCK chain -/
def qeCertOf (b : Bytes) : QeReportCertData :=
  ⟨some (reportOf (sub b 0 384)), sub b 384 448, some (authOf (b.drop 448)),
   some (pckOf (b.drop (448 + (2 + le16 (sub (b.drop 448) 0 2)))))⟩
def QeCertOK (b : Bytes) : Prop :=
  448 ≤ b.length ∧ AuthOK (b.drop 448) ∧ PckOK (b.drop (448 + (2 + le16 (sub (b.drop 448) 0 2))))

theorem checkQeReportCertData_qeCertOf {b : Bytes} (h : QeCertOK b) : checkQeReportCertData (some (qeCertOf b)) = .ok () := by
  obtain ⟨h0, ha, hp⟩ := h
  rw [checkQeReportCertData_ok_iff]
  exact ⟨checkQeReport_reportOf (le_length_sub h0 (by decide) (by decide)), length_sub_le h0 (by decide),
    checkQeAuthData_authOf ha, (checkPckChain_pckOf _).mpr hp.2⟩

theorem qeReportCertDataToProto_decides (b : Bytes) :
    Decides (qeReportCertDataToProto true b) (QeCertOK b) (qeCertOf b) := by
  unfold qeReportCertDataToProto
  simp only [gen_const, ↓reduceIte]
  refine .guard_bind decide_eq_true_iff fun h0 => ?_
  simp (disch := decide) only [slice_eq_sub_le h0, sliceFrom_eq_drop h0, ok_bind]
  rw [enclaveReportToProto_eq (le_length_sub h0 (by decide) (by decide)), ok_bind]
  refine .bind (qeAuthDataToProto_decides _) fun ha => ?_
  rw [sliceFrom_eq_drop (by have := ha.2; rw [List.length_drop] at this; omega), ok_bind]
  refine .bind_last (pckCertificateChainToProto_decides _) fun hp => ?_
  exact bind_eq (checkQeReportCertData_qeCertOf ⟨h0, ha, hp⟩)

/-- type 2 ‖ size 4 ‖ QE report certification data -/
def certOf (b : Bytes) : CertificationData := ⟨le16 (sub b 0 2), le32 (sub b 2 6), some (qeCertOf (b.drop 6))⟩
def CertOK (b : Bytes) : Prop :=
  6 ≤ b.length ∧ (b.drop 6).length = le32 (sub b 2 6) ∧ QeCertOK (b.drop 6) ∧ le16 (sub b 0 2) = 6

theorem certificationDataToProto_decides (b : Bytes) : Decides (certificationDataToProto true b) (CertOK b) (certOf b) := by
  unfold certificationDataToProto
  simp only [gen_const, ↓reduceIte]
  refine .guard_bind decide_eq_true_iff fun h0 => ?_
  simp (disch := decide) only [slice_eq_sub_le h0, sliceFrom_eq_drop h0, ok_bind]
  refine .guard_bind beq_iff_eq fun _ => .bind (qeReportCertDataToProto_decides _) fun hq => ?_
  exact .check (checkCertificationData_ne_panic _)
    (checkCertificationData_ok_iff.trans (and_iff_left (checkQeReportCertData_qeCertOf hq))) _

/-- signature 64 ‖ attestation key 64 ‖ certification data -/
def signedOf (b : Bytes) : SignedData := ⟨sub b 0 64, sub b 64 128, some (certOf (b.drop 128))⟩
def SignedOK (b : Bytes) : Prop := 128 ≤ b.length ∧ CertOK (b.drop 128)

theorem checkCertificationData_certOf {b : Bytes} (h : CertOK b) : checkCertificationData (some (certOf b)) = .ok () :=
  checkCertificationData_ok_iff.mpr ⟨h.2.2.2, checkQeReportCertData_qeCertOf h.2.2.1⟩

theorem checkSignedData_signedOf {b : Bytes} (h : SignedOK b) : checkSignedData (some (signedOf b)) = .ok () :=
  checkSignedData_ok_iff.mpr ⟨length_sub_le h.1 (by decide), length_sub_le h.1 (by decide), checkCertificationData_certOf h.2⟩

theorem signedDataToProto_decides (b : Bytes) : Decides (signedDataToProto true b) (SignedOK b) (signedOf b) := by
  unfold signedDataToProto
  simp only [gen_const, ↓reduceIte]
  refine .guard_bind decide_eq_true_iff fun h0 => ?_
  simp (disch := decide) only [slice_eq_sub_le h0, sliceFrom_eq_drop h0, ok_bind]
  refine .bind_last (certificationDataToProto_decides _) fun hc => ?_
  exact bind_eq (checkSignedData_signedOf ⟨h0, hc⟩)

/-- header 48 ‖ TD body 584 ‖ signed-data size 4 ‖ signed data ‖ extra bytes -/
def quoteOf (b : Bytes) : QuoteV4 :=
  ⟨some (hdrOf (sub b 0 48)), some (bodyOf (sub b 48 632)), le32 (sub b 632 636),
   some (signedOf (sub b 636 (636 + le32 (sub b 632 636)))), b.drop (636 + le32 (sub b 632 636))⟩
/-- 1020 = `abi.QuoteMinSize` (636 + 384), the parser's first guard; the shortest input the inner levels accept has 1226 bytes -/
def QuoteOK (b : Bytes) : Prop :=
  1020 ≤ b.length ∧ HdrOK (sub b 0 48) ∧ le32 (sub b 632 636) ≤ (b.drop 636).length ∧
  SignedOK (sub b 636 (636 + le32 (sub b 632 636)))

theorem checkQuoteV4_quoteOf {b : Bytes} (h : QuoteOK b) : checkQuoteV4 (some (quoteOf b)) = .ok () := by
  obtain ⟨h0, hv, _, hs⟩ := h
  exact checkQuoteV4_ok_iff.mpr ⟨(checkHeader_hdrOf (le_length_sub h0 (by decide) (by decide))).mpr hv,
    checkTDQuoteBody_bodyOf (le_length_sub h0 (by decide) (by decide)), checkSignedData_signedOf hs⟩

theorem quoteToProtoV4_decides (b : Bytes) : Decides (quoteToProtoV4' true b) (QuoteOK b) (quoteOf b) := by
  unfold quoteToProtoV4'
  simp only [gen_const]
  refine .guard_bind decide_eq_true_iff fun h0 => ?_
  simp (disch := decide) only [slice_eq_sub_le h0, sliceFrom_eq_drop (Nat.le_trans (by decide : 636 ≤ 1020) h0), ok_bind]
  refine .bind (headerToProto_decides (le_length_sub h0 (by decide) (by decide))) fun hv => ?_
  rw [tdQuoteBodyToProto_eq (le_length_sub h0 (by decide) (by decide)), ok_bind]
  refine .guard_bind decide_eq_true_iff fun hn => ?_
  have hn' := hn
  rw [List.length_drop] at hn'
  rw [slice_eq_sub (by omega) (by omega), ok_bind, sliceFrom_eq_drop (by omega), ok_bind]
  refine .bind_last (signedDataToProto_decides _) fun hs => ?_
  exact bind_eq (checkQuoteV4_quoteOf ⟨h0, hv, hn, hs⟩)

theorem quoteToProto_decides (b : Bytes) : Decides (quoteToProto b) (QuoteOK b) (quoteOf b) := by
  unfold quoteToProto quoteToProto'
  simp only [gen_const]
  have hv (h : QuoteOK b) : le16 (sub b 0 2) = 4 := by
    have := h.2.1.1
    rwa [sub_sub _ _ _ _ _ (by decide)] at this
  refine (Decides.guard_bind decide_eq_true_iff fun h0 => ?_).iff
    ⟨fun h => h.2, fun h => ⟨Nat.le_trans (by decide : 2 ≤ 1020) h.1, h⟩⟩
  rw [slice_eq_sub (by decide) h0, ok_bind]
  exact (Decides.guard_bind beq_iff_eq fun _ => quoteToProtoV4_decides b).iff ⟨fun h => h.2, fun h => ⟨hv h, h⟩⟩

end Tdx.Abi
