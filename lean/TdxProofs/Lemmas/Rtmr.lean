/-
  Lemmas for C17 (TdxModel.Rtmr): the TSM's operations keep it well formed; go-tdx-guest's request layer is validation
  in front of go-configfs-tsm's `ExtendDigest` (`step_valid`, `step_invalid`), whose effect on a well-formed TSM is
  `lib_spec`.  (What one request does to a register, `step_register`, and the invariant over histories, `wellFormed_run`,
  are in Props/C17.lean: they are steps between the property theorems there.)
-/
import TdxModel.Rtmr

namespace Tdx.Rtmr

theorem kstrtouint_itoa : ∀ n, n ≤ 3 → kstrtouint (itoa n) = some n := by decide

theorem kstrtouint_nil : kstrtouint [] = none := by decide

theorem kstrtouint_lt {b : Bytes} {v : Nat} (h : kstrtouint b = some v) : v < 2 ^ 64 := by
  unfold kstrtouint at h
  split at h
  · cases h
  · split at h
    · split at h
      · cases h; assumption
      · cases h
    · cases h

theorem goInt_eq_iff (v n : Nat) (hv : v < 2 ^ 64) (hn : n < 2 ^ 63) : goInt v = (n : Int) ↔ v = n := by
  unfold goInt
  split <;> omega

theorem validateIndex_iff (e : Entry) (n : Nat) (hn : n < 2 ^ 63) (hd : e.isDir = true) :
    validateIndex e n = true ↔ e.bound = some n := by
  unfold validateIndex Entry.bound
  simp only [hd, if_true]
  cases e.index with
  | none => simp
  | some b =>
    simp only [Option.bind_some]
    cases hk : kstrtouint b with
    | none => simp
    | some v =>
      have := kstrtouint_lt hk
      simp [goInt_eq_iff v n this hn]

/-- the search returns the first entry (in `ReadDir` order) that the TSM has bound to the index: the library's test
    `int(index) != want` and the kernel's notion `Entry.bound` agree on the indices in question -/
theorem search_eq_find (n : Nat) (hn : n < 2 ^ 63) (es : List Entry) :
    (search (n : Int) es).2 = es.find? (fun e => e.bound == some n) := by
  induction es with
  | nil => rfl
  | cons e es ih =>
    unfold search
    by_cases hd : e.isDir = true
    · simp only [hd, if_true]
      by_cases hv : validateIndex e n = true
      · have := (validateIndex_iff e n hn hd).mp hv
        simp [hv, this]
      · have hb : e.bound ≠ some n := fun h => hv ((validateIndex_iff e n hn hd).mpr h)
        simp [hv, hb, ih]
    · have hb : e.bound = none := by simp [Entry.bound, hd]
      simp [hd, hb, ih]

/-- the search only reads `index` attributes -/
theorem search_ops (want : Int) : ∀ es : List Entry, ∀ o ∈ (search want es).1, ∃ nm, o = Op.readFile nm .index
  | [], _, h => nomatch h
  | e :: es, o, h => by
    unfold search at h
    split at h
    · split at h
      · exact ⟨_, List.mem_singleton.mp h⟩
      · exact (List.mem_cons.mp h).elim (fun h => ⟨_, h⟩) (search_ops want es o)
    · exact search_ops want es o h

/-- The trace of `ExtendDigest` is `ReadDir`, the `index` reads of the search, then the operations `ops`
    that change something; a projection that ignores the first two (`digestWrites`, `indexWrites`,
    `mkdirs`) sees `ops` only. -/
theorem filterMap_trace {α : Type} (f : Op → Option α) (h0 : f .readDir = none)
    (hf : ∀ nm, f (.readFile nm .index) = none) (want : Int) (es : List Entry) (ops : List Op) :
    (Op.readDir :: (search want es).1 ++ ops).filterMap f = ops.filterMap f := by
  have hs : (search want es).1.filterMap f = [] := List.filterMap_eq_nil_iff.mpr fun o ho => by
    obtain ⟨nm, rfl⟩ := search_ops want es o ho
    exact hf nm
  rw [List.cons_append, List.filterMap_cons_none h0, List.filterMap_append, hs, List.nil_append]

/-- where the new entry lands plays no part in any of the proofs -/
theorem ins_perm (e : Entry) (es : List Entry) : (ins e es).Perm (e :: es) := by
  induction es with
  | nil => exact .refl _
  | cons y ys ih =>
    unfold ins
    split
    · exact .refl _
    · exact (ih.cons y).trans (.swap e y ys)

theorem find_name_of_mem {es : List Entry} (hn : es.Pairwise fun a b => a.name ≠ b.name) {e : Entry}
    (he : e ∈ es) : es.find? (fun x => x.name == e.name) = some e := by
  induction es with
  | nil => cases he
  | cons x xs ih =>
    rw [List.pairwise_cons] at hn
    rcases List.mem_cons.mp he with rfl | hm
    · simp
    · have : x.name ≠ e.name := hn.1 e hm
      simp [this, ih hn.2 hm]

theorem find_name_none {es : List Entry} {n : Name} (h : ∀ x ∈ es, x.name ≠ n) :
    es.find? (fun x => x.name == n) = none := by
  rw [List.find?_eq_none]
  intro x hx
  simpa using h x hx

theorem writeDigest_eq {H : Hash} {t : Tsm} {nm : Name} {e : Entry} {j : Nat} {d : Bytes}
    (hl : t.lookup nm = some e) (hb : e.bound = some j) (hd : d.length = digestLen) :
    t.writeDigest H nm d = some { t with regs := fun k => if k = j then extend H (t.regs j) d else t.regs k } := by
  simp [Tsm.writeDigest, hl, hb, hd]

theorem writeIndex_eq {t : Tsm} {nm : Name} {e : Entry} {v : Bytes} {j : Nat}
    (hl : t.lookup nm = some e) (hdir : e.isDir = true) (hk : kstrtouint v = some j)
    (hfree : ∀ x ∈ t.entries, x.bound ≠ some j) :
    t.writeIndex nm v = some { t with entries := t.entries.map (Entry.setIndex nm v) } := by
  have hany : (t.entries.any fun x => x.bound == some j) = false := by
    rw [List.any_eq_false]
    intro x hx
    simpa using hfree x hx
  simp [Tsm.writeIndex, hl, hdir, hk, hany]

theorem setIndex_name (nm : Name) (v : Bytes) (x : Entry) : (Entry.setIndex nm v x).name = x.name := by
  unfold Entry.setIndex; split <;> rfl

theorem setIndex_bound {nm : Name} {v : Bytes} {j : Nat} (hk : kstrtouint v = some j) (x : Entry) :
    (Entry.setIndex nm v x).bound = if x.name = nm ∧ x.isDir = true then some j else x.bound := by
  unfold Entry.setIndex Entry.bound
  by_cases h1 : x.name = nm <;> by_cases h2 : x.isDir = true <;> simp [h1, h2, hk]

theorem lookup_setIndex (t : Tsm) (nm nm' : Name) (v : Bytes) :
    ({ t with entries := t.entries.map (Entry.setIndex nm v) } : Tsm).lookup nm' =
      (t.lookup nm').map (Entry.setIndex nm v) := by
  unfold Tsm.lookup
  rw [List.find?_map]
  congr 2
  funext x
  simp [setIndex_name]

theorem WellFormed.name_fresh {t : Tsm} (wf : WellFormed t) (n : Nat) : ∀ x ∈ t.entries, x.name ≠ t.tempName n :=
  fun x hx h => Nat.lt_irrefl _ (wf.fresh x hx n t.next h)

theorem WellFormed.mkdirTemp {t : Tsm} (wf : WellFormed t) (n : Nat) : WellFormed (t.mkdirTemp n).1 where
  names := ((ins_perm ..).pairwise_iff Ne.symm).mpr
    (List.pairwise_cons.mpr ⟨fun x hx => (wf.name_fresh n x hx).symm, wf.names⟩)
  fresh x hx i k hk := by
    rcases List.mem_cons.mp ((ins_perm ..).mem_iff.mp hx) with rfl | hx
    · cases hk; exact Nat.lt_succ_self _
    · exact Nat.lt_succ_of_lt (wf.fresh x hx i k hk)
  onePerIndex := ((ins_perm ..).pairwise_iff fun h j hb ha => h j ha hb).mpr
    (List.pairwise_cons.mpr ⟨fun _ _ _ => nofun, wf.onePerIndex⟩)

/-- the kernel's EBUSY check is what keeps one entry per index: binding an entry to an index that no
    entry is bound to -/
theorem WellFormed.setIndex {t : Tsm} (wf : WellFormed t) (nm : Name) {v : Bytes} {j : Nat}
    (hk : kstrtouint v = some j) (hfree : ∀ x ∈ t.entries, x.bound ≠ some j) :
    WellFormed { t with entries := t.entries.map (Entry.setIndex nm v) } where
  names := List.pairwise_map.mpr (wf.names.imp fun h => by rwa [setIndex_name, setIndex_name])
  fresh x hx i k hk := by
    obtain ⟨y, hy, rfl⟩ := List.mem_map.mp hx
    exact wf.fresh y hy i k (setIndex_name .. ▸ hk)
  onePerIndex := by
    refine List.pairwise_map.mpr ((wf.names.and wf.onePerIndex).imp_of_mem fun ha hb ⟨hn, ho⟩ j' hja hjb => ?_)
    rw [setIndex_bound hk] at hja hjb
    split at hja <;> split at hjb
    next h1 h2 => exact hn (h1.1.trans h2.1.symm)
    next => exact hfree _ hb (Option.some.inj hja ▸ hjb)
    next => exact hfree _ ha (Option.some.inj hjb ▸ hja)
    next => exact ho j' hja hjb

/-! ### go-tdx-guest's request layer is validation in front of `rtmr.ExtendDigest` -/

theorem step_valid (H : Hash) (t : Tsm) {r : Req} (hv : Valid r) :
    step H t r = libExtendDigest H t r.index (r.digestOf H) := by
  have dig : ∀ i d, Valid (.digest i d) → extendDigestClient H t i d = libExtendDigest H t i d := by
    intro i d ⟨h0, h3, hd⟩
    rw [extendDigestClient, if_neg (by unfold maxIndex; omega),
      if_neg (not_not_intro (show d.length = digestLen from hd))]
  cases r with
  | digest i d => exact dig i d hv
  | eventLog i alg log =>
    obtain ⟨h0, h3, ha, hl⟩ := hv
    rw [step, extendEventLogClient, if_neg (not_not_intro ha), if_neg (mt List.eq_nil_of_length_eq_zero hl)]
    exact dig i _ ⟨h0, h3, H.len log⟩

theorem step_invalid (H : Hash) (t : Tsm) {r : Req} (hv : ¬ Valid r) : ∃ e, step H t r = ⟨t, .err e, []⟩ := by
  have dig : ∀ i d, ¬ Valid (.digest i d) → ∃ e, extendDigestClient H t i d = ⟨t, .err e, []⟩ := by
    intro i d hv
    unfold extendDigestClient
    by_cases h1 : i < 0 ∨ i > maxIndex
    · exact ⟨_, if_pos h1⟩
    · by_cases h2 : d.length ≠ digestLen
      · exact ⟨_, by rw [if_neg h1, if_pos h2]⟩
      · exact absurd ⟨by omega, by unfold maxIndex at h1; omega, Decidable.not_not.mp h2⟩ hv
  cases r with
  | digest i d => exact dig i d hv
  | eventLog i alg log =>
    show ∃ e, extendEventLogClient H t i alg log = _
    unfold extendEventLogClient
    by_cases h1 : alg ≠ sha384Code
    · exact ⟨_, if_pos h1⟩
    · by_cases h2 : log.length = 0
      · exact ⟨_, by rw [if_neg h1, if_pos h2]⟩
      · rw [if_neg h1, if_neg h2]
        exact dig i _ fun ⟨h0, h3, _⟩ => hv ⟨h0, h3, Decidable.not_not.mp h1, fun h => h2 (by rw [h]; rfl)⟩

theorem Valid.index_range {r : Req} (hv : Valid r) : 0 ≤ r.index ∧ r.index ≤ 3 := by
  cases r <;> exact ⟨hv.1, hv.2.1⟩

theorem Valid.digest_length (H : Hash) {r : Req} (hv : Valid r) : (r.digestOf H).length = digestLen := by
  cases r with
  | digest i d => exact hv.2.2
  | eventLog i alg log => exact H.len log

/-! ### the effect of `rtmr.ExtendDigest` (go-configfs-tsm) on a well-formed TSM -/

theorem lib_spec (H : Hash) (t : Tsm) (wf : WellFormed t) {i : Int} (h0 : 0 ≤ i) (h3 : i ≤ 3) {d : Bytes}
    (hd : d.length = digestLen) : ExtendEffect H t i.toNat d (libExtendDigest H t i d) := by
  obtain ⟨n, rfl⟩ := Int.eq_ofNat_of_zero_le h0
  have hfind := search_eq_find n (by omega) t.entries
  have hneg : ¬ ((n : Int) < 0) := by omega
  unfold libExtendDigest
  simp only [hd, ne_eq, not_true_eq_false, if_false, hneg, Int.toNat_natCast]
  cases hf : t.entries.find? (fun e => e.bound == some n) with
  | some e =>
    -- an entry is bound: it is re-used
    have hmem : e ∈ t.entries := List.mem_of_find?_eq_some hf
    have hb : e.bound = some n := by simpa using List.find?_some hf
    have hl : t.lookup e.name = some e := find_name_of_mem wf.names hmem
    simp only [hf ▸ hfind, writeDigest_eq hl hb hd]
    -- the fields of `ExtendEffect` in order (the new TSM differs in `regs` only, which `WellFormed` does not mention, but is
    -- another term: the invariant is rebuilt from its fields); the three holes are its three projections of the trace (digest writes,
    -- directories made, index writes), each an instance of `filterMap_trace`
    refine ⟨rfl, ⟨wf.names, wf.fresh, wf.onePerIndex⟩, fun k => rfl, rfl, e.name, e, hl, hb, ?_,
      fun _ => ⟨hl, rfl, ?_, ?_⟩, fun hnb => absurd ⟨e, hmem, hb⟩ hnb⟩ <;>
      exact filterMap_trace _ rfl (fun _ => rfl) ..
  | none =>
    -- none is bound: create (`t1`), bind (`t2`), extend
    have hnone : ∀ x ∈ t.entries, x.bound ≠ some n := fun x hx => by
      simpa using List.find?_eq_none.mp hf x hx
    have hk := kstrtouint_itoa n (by omega)
    have wf1 := wf.mkdirTemp n
    have hmem1 : ∀ x, x ∈ (t.mkdirTemp n).1.entries ↔ x = t.newEntry n ∨ x ∈ t.entries := fun x =>
      (ins_perm ..).mem_iff.trans List.mem_cons
    have hl1 : (t.mkdirTemp n).1.lookup (t.tempName n) = some (t.newEntry n) :=
      find_name_of_mem (e := t.newEntry n) wf1.names ((hmem1 _).mpr (Or.inl rfl))
    have hfree1 : ∀ x ∈ (t.mkdirTemp n).1.entries, x.bound ≠ some n := fun x hx => by
      rcases (hmem1 x).mp hx with rfl | hx
      · exact nofun
      · exact hnone x hx
    have wf2 := wf1.setIndex (t.tempName n) hk hfree1
    have hl2 := (lookup_setIndex (t.mkdirTemp n).1 (t.tempName n) (t.tempName n) (itoa n)).trans
      (congrArg _ hl1)
    have hb2 : (Entry.setIndex (t.tempName n) (itoa n) (t.newEntry n)).bound = some n :=
      (setIndex_bound hk _).trans (if_pos ⟨rfl, rfl⟩)
    simp only [hf ▸ hfind, show (t.mkdirTemp n).2 = t.tempName n from rfl, writeIndex_eq hl1 rfl hk hfree1,
      writeDigest_eq hl2 hb2 hd, List.append_assoc]
    -- as above; the clause for "no entry was bound" now carries the content
    refine ⟨rfl, ⟨wf2.names, wf2.fresh, wf2.onePerIndex⟩, fun k => rfl, rfl, t.tempName n, _, hl2, hb2, ?_,
      fun ⟨x, hx, hxb⟩ => absurd hxb (hnone x hx),
      fun _ => ⟨find_name_none (wf.name_fresh n), ?_, ?_, (List.length_map ..).trans (ins_perm ..).length_eq,
        fun x hx => List.mem_map.mpr ⟨x, (hmem1 x).mpr (Or.inr hx), if_neg (wf.name_fresh n x hx)⟩⟩⟩ <;>
      exact filterMap_trace _ rfl (fun _ => rfl) ..

end Tdx.Rtmr
