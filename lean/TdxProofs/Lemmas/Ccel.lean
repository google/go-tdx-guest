/-
  `Tdx.Ccel` (C18): the bank loop in closed form; `parseCcel` as its four stages in sequence.
-/
import TdxModel.Ccel
import TdxProofs.Lemmas.Basic

namespace Tdx.Ccel
open Tdx.Abi

/-- The loop numbers the RTMRs from `i` and gives up when a number would pass 3: it never crashes,
    fails exactly when `i + |rs| > 4`, and otherwise pairs RTMR `j` with `i + j`.  `i ≤ 4` holds at the
    entry (`i = 0`) and at every recursive call; for a larger `i` the loop still accepts the empty list. -/
theorem bankLoop_eq (i : Nat) (hi : i ≤ 4) (rs : List Bytes) :
    bankLoop i rs =
      if i + rs.length ≤ 4 then .ok ((List.range' i rs.length).zip rs) else .err "too many RTMRs in quote" := by
  induction rs generalizing i with
  | nil => exact (if_pos hi).symm
  | cons r rest ih =>
    unfold bankLoop
    by_cases h3 : i > 3
    · rw [if_pos h3, if_neg (by rw [List.length_cons]; omega)]
    · rw [if_neg h3, ih (i + 1) (by omega), List.length_cons, Nat.add_right_comm, Nat.add_assoc]
      by_cases hc : i + (rest.length + 1) ≤ 4
      · rw [if_pos hc, if_pos hc]
        rfl
      · rw [if_neg hc, if_neg hc]

theorem bankLoop_ne_panic : ∀ (i : Nat) (rs : List Bytes), bankLoop i rs ≠ .panic
  | _, [] => nofun
  | i, _ :: rest => by
    unfold bankLoop
    refine ite_ne nofun ?_
    split
    · nofun
    · nofun
    · exact absurd ‹_› (bankLoop_ne_panic (i + 1) rest)

/-- `ParseCcelWithTdQuote` is verify, validate, bank, replay in sequence, each stage run only if the
    one before succeeded; an error of any stage comes back as the Go pair `(nil, err)`. -/
theorem parseCcel_eq {State : Type} (verify validate : Outcome Unit) (q : Option QuoteV4)
    (replay : Bank → Outcome (GoRet State)) :
    parseCcel verify validate q replay =
      match verify >>= fun _ => validate >>= fun _ => getRtmrs true q >>= replay with
      | .err e => .ok ⟨none, some e⟩
      | r => r := by
  unfold parseCcel
  cases verify with
  | ok _ =>
    cases validate with
    | ok _ => cases getRtmrs true q <;> rfl
    | _ => rfl
  | _ => rfl

end Tdx.Ccel
