/-
  abi: the structural checks as conjunctions, and the serialisers as "check, then this concatenation"
  (`wire`).  Neither ever panics.
-/
import TdxModel.AbiSpec
import TdxProofs.Lemmas.Decides
import TdxProofs.Generated.ConstsSimp

namespace Tdx.Abi
variable {β : Type}

theorem ok_bind {α β} (a : α) (f : α → Outcome β) : (Outcome.ok a >>= f) = f a := rfl
theorem pure_eq_ok {α} (a : α) : (pure a : Outcome α) = .ok a := rfl

theorem lenIs_ok_iff {x : Bytes} {n e} {u} : lenIs x n e = .ok u ↔ x.length = n := by
  unfold lenIs; rw [guard_eq_ok_iff]; simp

theorem bind_lenIs_ok_iff {x : Bytes} {n e} {f : Unit → Outcome β} {r} :
    (lenIs x n e >>= f) = .ok r ↔ x.length = n ∧ f () = .ok r := by
  rw [bind_unit_ok_iff, lenIs_ok_iff]

theorem lenIs_ok {b : Bytes} {n : Nat} {w} {β} {f : Unit → Outcome β} {r} (h : (lenIs b n w >>= f) = .ok r) :
    b.length = n ∧ f () = .ok r :=
  bind_lenIs_ok_iff.mp h

theorem checkHeader_ok_iff {h : Header} {u} : checkHeader (some h) = .ok u ↔
    h.version = 4 ∧ h.attestationKeyType = 2 ∧ h.teeType = 129 ∧ h.pceSvn.length = 2 ∧ h.qeSvn.length = 2 ∧
    h.qeVendorId.length = 16 ∧ h.userData.length = 20 := by
  unfold checkHeader
  simp only [gen_const, bind_guard_ok_iff, bind_lenIs_ok_iff, lenIs_ok_iff, decide_eq_true_eq, beq_iff_eq]
  omega

theorem checkTDQuoteBody_ok_iff {t : TdQuoteBody} {u} : checkTDQuoteBody (some t) = .ok u ↔
    t.teeTcbSvn.length = 16 ∧ t.mrSeam.length = 48 ∧ t.mrSignerSeam.length = 48 ∧ t.seamAttributes.length = 8 ∧
    t.tdAttributes.length = 8 ∧ t.xfam.length = 8 ∧ t.mrTd.length = 48 ∧ t.mrConfigId.length = 48 ∧
    t.mrOwner.length = 48 ∧ t.mrOwnerConfig.length = 48 ∧ t.reportData.length = 64 ∧ t.rtmrs.length = 4 ∧
    ∀ r ∈ t.rtmrs, r.length = 48 := by
  unfold checkTDQuoteBody checkRtmrs
  simp only [gen_const, bind_guard_ok_iff, bind_lenIs_ok_iff, guard_eq_ok_iff, beq_iff_eq, List.all_eq_true]

theorem checkQeReport_ok_iff {r : EnclaveReport} {u} : checkQeReport (some r) = .ok u ↔
    r.cpuSvn.length = 16 ∧ r.reserved1.length = 28 ∧ r.attributes.length = 16 ∧ r.mrEnclave.length = 32 ∧
    r.reserved2.length = 32 ∧ r.mrSigner.length = 32 ∧ r.reserved3.length = 96 ∧ r.isvProdId < 65536 ∧
    r.isvSvn < 65536 ∧ r.reserved4.length = 60 ∧ r.reportData.length = 64 := by
  unfold checkQeReport
  simp only [gen_const, bind_guard_ok_iff, bind_lenIs_ok_iff, lenIs_ok_iff, decide_eq_true_eq]

theorem checkQeAuthData_ok_iff {a : QeAuthData} {u} : checkQeAuthData (some a) = .ok u ↔
    a.parsedDataSize < 65536 ∧ a.parsedDataSize = a.data.length := by
  unfold checkQeAuthData
  simp only [bind_guard_ok_iff, guard_eq_ok_iff, decide_eq_true_eq, beq_iff_eq]

theorem checkPckChain_ok_iff {p : PckChainData} {u} : checkPckChain (some p) = .ok u ↔
    p.certificateDataType = 5 ∧ p.size = p.pckCertChain.length := by
  unfold checkPckChain
  simp only [gen_const, bind_guard_ok_iff, guard_eq_ok_iff, decide_eq_true_eq, beq_iff_eq]
  omega

theorem checkQeReportCertData_ok_iff {q : QeReportCertData} {u} : checkQeReportCertData (some q) = .ok u ↔
    checkQeReport q.qeReport = .ok () ∧ q.qeReportSignature.length = 64 ∧ checkQeAuthData q.qeAuthData = .ok () ∧
    checkPckChain q.pckChain = .ok () := by
  cases u
  unfold checkQeReportCertData
  simp only [gen_const, bind_unit_ok_iff, lenIs_ok_iff]

theorem checkCertificationData_ok_iff {c : CertificationData} {u} : checkCertificationData (some c) = .ok u ↔
    c.certificateDataType = 6 ∧ checkQeReportCertData c.qeReportCertData = .ok () := by
  cases u
  unfold checkCertificationData
  simp only [gen_const, bind_guard_ok_iff, decide_eq_true_eq, beq_iff_eq]
  constructor
  · rintro ⟨_, h, x⟩; exact ⟨h, x⟩
  · rintro ⟨h, x⟩; exact ⟨by omega, h, x⟩

theorem checkSignedData_ok_iff {s : SignedData} {u} : checkSignedData (some s) = .ok u ↔
    s.signature.length = 64 ∧ s.ecdsaAttestationKey.length = 64 ∧ checkCertificationData s.certificationData = .ok () := by
  cases u
  unfold checkSignedData
  simp only [gen_const, bind_lenIs_ok_iff]

theorem checkQuoteV4_ok_iff {q : QuoteV4} {u} : checkQuoteV4 (some q) = .ok u ↔
    checkHeader q.header = .ok () ∧ checkTDQuoteBody q.tdQuoteBody = .ok () ∧ checkSignedData q.signedData = .ok () := by
  cases u
  unfold checkQuoteV4
  simp only [bind_unit_ok_iff]

@[simp] theorem lenIs_ne_panic (b : Bytes) (n : Nat) (w : String) : lenIs b n w ≠ .panic := guard_ne_panic _ _

@[simp] theorem checkHeader_ne_panic (o : Option Header) : checkHeader o ≠ .panic := by
  cases o <;> simp [checkHeader, bind_ne_panic_iff]

@[simp] theorem checkRtmrs_ne_panic (rs : List Bytes) : checkRtmrs rs ≠ .panic := guard_ne_panic _ _

@[simp] theorem checkTDQuoteBody_ne_panic (o : Option TdQuoteBody) : checkTDQuoteBody o ≠ .panic := by
  cases o <;> simp [checkTDQuoteBody, bind_ne_panic_iff]

@[simp] theorem checkPckChain_ne_panic (o : Option PckChainData) : checkPckChain o ≠ .panic := by
  cases o <;> simp [checkPckChain, bind_ne_panic_iff]

@[simp] theorem checkQeReport_ne_panic (o : Option EnclaveReport) : checkQeReport o ≠ .panic := by
  cases o <;> simp [checkQeReport, bind_ne_panic_iff]

@[simp] theorem checkQeAuthData_ne_panic (o : Option QeAuthData) : checkQeAuthData o ≠ .panic := by
  cases o <;> simp [checkQeAuthData, bind_ne_panic_iff]

@[simp] theorem checkQeReportCertData_ne_panic (o : Option QeReportCertData) : checkQeReportCertData o ≠ .panic := by
  cases o <;> simp [checkQeReportCertData, bind_ne_panic_iff]

@[simp] theorem checkCertificationData_ne_panic (o : Option CertificationData) : checkCertificationData o ≠ .panic := by
  cases o <;> simp [checkCertificationData, bind_ne_panic_iff]

@[simp] theorem checkSignedData_ne_panic (o : Option SignedData) : checkSignedData o ≠ .panic := by
  cases o <;> simp [checkSignedData, bind_ne_panic_iff]

@[simp] theorem checkQuoteV4_ne_panic (o : Option QuoteV4) : checkQuoteV4 o ≠ .panic := by
  cases o <;> simp [checkQuoteV4, bind_ne_panic_iff]

/-- every `check*` refuses `nil` -/
theorem eq_some_of_check {α} [Inhabited α] {chk : Option α → Outcome Unit} {e} (hnone : chk none = .err e) {o : Option α}
    (h : chk o = .ok ()) : o = some (o.getD default) := by
  cases o with
  | none => rw [hnone] at h; cases h
  | some x => rfl

/-- what `CheckQuoteV4` establishes, level by level, read through the nil-safe getters (the facts of the signature block are
    opened, their readers want them one by one; header, body and report are opened where needed with `check*_ok_iff`) -/
structure Checked (q : QuoteV4) : Prop where
  present : AllPresent q
  header : checkHeader (some q.hdr) = .ok ()
  body : checkTDQuoteBody (some q.body) = .ok ()
  sigLen : q.signed.signature.length = 64
  keyLen : q.signed.ecdsaAttestationKey.length = 64
  certType : q.cert.certificateDataType = 6
  report : checkQeReport (some q.qeReport) = .ok ()
  qeSigLen : q.qeCert.qeReportSignature.length = 64
  authRange : q.auth.parsedDataSize < 65536
  authSize : q.auth.parsedDataSize = q.auth.data.length
  pckType : q.pck.certificateDataType = 5
  pckSize : q.pck.size = q.pck.pckCertChain.length

theorem checked {q : QuoteV4} (hc : checkQuoteV4 (some q) = .ok ()) : Checked q := by
  obtain ⟨hh, ht, hs⟩ := checkQuoteV4_ok_iff.mp hc
  have e1 := eq_some_of_check (chk := checkHeader) rfl hh
  have e2 := eq_some_of_check (chk := checkTDQuoteBody) rfl ht
  have e3 : q.signedData = some q.signed := eq_some_of_check (chk := checkSignedData) rfl hs
  rw [e3] at hs
  obtain ⟨l1, l2, hcd⟩ := checkSignedData_ok_iff.mp hs
  have e4 : q.signed.certificationData = some q.cert := eq_some_of_check (chk := checkCertificationData) rfl hcd
  rw [e4] at hcd
  obtain ⟨t6, hqc⟩ := checkCertificationData_ok_iff.mp hcd
  have e5 : q.cert.qeReportCertData = some q.qeCert := eq_some_of_check (chk := checkQeReportCertData) rfl hqc
  rw [e5] at hqc
  obtain ⟨hr, l3, ha, hp⟩ := checkQeReportCertData_ok_iff.mp hqc
  have e6 := eq_some_of_check (chk := checkQeReport) rfl hr
  have e7 := eq_some_of_check (chk := checkQeAuthData) rfl ha
  have e8 := eq_some_of_check (chk := checkPckChain) rfl hp
  obtain ⟨a1, a2⟩ := checkQeAuthData_ok_iff.mp (e7 ▸ ha)
  obtain ⟨p1, p2⟩ := checkPckChain_ok_iff.mp (e8 ▸ hp)
  exact ⟨⟨e1, e2, e3, e4, e5, e6, e7, e8⟩, e1 ▸ hh, e2 ▸ ht, l1, l2, t6, e6 ▸ hr, l3, a1, a2, p1, p2⟩

theorem allPresent_shape {q : QuoteV4} (hp : AllPresent q) :
    q = ⟨some q.hdr, some q.body, q.signedDataSize,
         some ⟨q.signed.signature, q.signed.ecdsaAttestationKey,
           some ⟨q.cert.certificateDataType, q.cert.size,
             some ⟨some q.qeReport, q.qeCert.qeReportSignature, some q.auth, some q.pck⟩⟩⟩, q.extraBytes⟩ := by
  obtain ⟨p1, p2, p3, p4, p5, p6, p7, p8⟩ := hp
  rw [← p6, ← p7, ← p8, ← p5, ← p4, ← p3, ← p2, ← p1]

def hdrBytes (h : Header) : Bytes :=
  toLE16 h.version ++ toLE16 h.attestationKeyType ++ toLE32 h.teeType ++ h.pceSvn ++ h.qeSvn ++ h.qeVendorId ++ h.userData

/-- `fit` as `tdQuoteBodyToAbiBytes` copies the report data into a zeroed 64-byte region; under the check it is the identity
    (`fit_eq`) -/
def bodyBytes (t : TdQuoteBody) : Bytes :=
  t.teeTcbSvn ++ t.mrSeam ++ t.mrSignerSeam ++ t.seamAttributes ++ t.tdAttributes ++ t.xfam ++ t.mrTd ++
    t.mrConfigId ++ t.mrOwner ++ t.mrOwnerConfig ++ t.rtmrs.flatten ++ fit t.reportData 64

def reportBytes (r : EnclaveReport) : Bytes :=
  r.cpuSvn ++ toLE32 r.miscSelect ++ r.reserved1 ++ r.attributes ++ r.mrEnclave ++ r.reserved2 ++
    r.mrSigner ++ r.reserved3 ++ toLE16 r.isvProdId ++ toLE16 r.isvSvn ++ r.reserved4 ++ r.reportData

def authBytes (a : QeAuthData) : Bytes := toLE16 a.parsedDataSize ++ a.data

def pckBytes (p : PckChainData) : Bytes := toLE16 p.certificateDataType ++ toLE32 p.size ++ p.pckCertChain

def qeCertBytes (q : QeReportCertData) : Bytes :=
  reportBytes (q.qeReport.getD default) ++ q.qeReportSignature ++ authBytes (q.qeAuthData.getD default) ++
    pckBytes (q.pckChain.getD default)

def certBytes (c : CertificationData) : Bytes :=
  toLE16 c.certificateDataType ++ toLE32 c.size ++ qeCertBytes (c.qeReportCertData.getD default)

def signedBytes (s : SignedData) : Bytes :=
  s.signature ++ s.ecdsaAttestationKey ++ certBytes (s.certificationData.getD default)

/-- the wire form: header 48 ‖ TD body 584 ‖ signed-data size 4 ‖ signed data ‖ extra bytes -/
def wire (q : QuoteV4) : Bytes :=
  hdrBytes q.hdr ++ bodyBytes q.body ++ toLE32 q.signedDataSize ++ signedBytes q.signed ++ q.extraBytes

theorem fit_eq {b : Bytes} {n : Nat} (h : b.length = n) : fit b n = b := by
  unfold fit zeros; simp [← h]

theorem fit_length (b : Bytes) (n : Nat) : (fit b n).length = n := by
  unfold fit zeros; simp; omega

theorem length_hdrBytes {h : Header} (hc : checkHeader (some h) = .ok ()) : (hdrBytes h).length = 48 := by
  obtain ⟨_, _, _, l1, l2, l3, l4⟩ := checkHeader_ok_iff.mp hc
  simp only [hdrBytes, List.length_append, toLE16_len, toLE32_len, l1, l2, l3, l4]

theorem length_bodyBytes {t : TdQuoteBody} (hc : checkTDQuoteBody (some t) = .ok ()) : (bodyBytes t).length = 584 := by
  obtain ⟨l1, l2, l3, l4, l5, l6, l7, l8, l9, l10, l11, l12, l13⟩ := checkTDQuoteBody_ok_iff.mp hc
  match h : t.rtmrs, l12 with
  | [r0, r1, r2, r3], _ =>
    simp only [h, List.mem_cons, List.not_mem_nil, or_false, forall_eq_or_imp, forall_eq] at l13
    simp only [bodyBytes, h, fit_eq l11, List.flatten_cons, List.flatten_nil, List.length_append, List.length_nil, l1, l2, l3, l4,
      l5, l6, l7, l8, l9, l10, l11, l13]

theorem length_reportBytes {r : EnclaveReport} (hc : checkQeReport (some r) = .ok ()) : (reportBytes r).length = 384 := by
  obtain ⟨l1, l2, l3, l4, l5, l6, l7, _, _, l10, l11⟩ := checkQeReport_ok_iff.mp hc
  simp only [reportBytes, List.length_append, toLE16_len, toLE32_len, l1, l2, l3, l4, l5, l6, l7, l10, l11]

theorem length_authBytes (a : QeAuthData) : (authBytes a).length = 2 + a.data.length := by
  simp only [authBytes, List.length_append, toLE16_len]

theorem length_pckBytes (p : PckChainData) : (pckBytes p).length = 6 + p.pckCertChain.length := by
  simp only [pckBytes, List.length_append, toLE16_len, toLE32_len]

theorem headerToAbiBytes_decides (o : Option Header) :
    Decides (headerToAbiBytes o) (checkHeader o = .ok ()) (hdrBytes (o.getD default)) := by
  cases o with
  | none => exact ⟨nofun, fun _ => ⟨_, rfl⟩⟩
  | some h => exact Decides.check_then (checkHeader_ne_panic _) fun _ => rfl

theorem tdQuoteBodyToAbiBytes_decides (o : Option TdQuoteBody) :
    Decides (tdQuoteBodyToAbiBytes o) (checkTDQuoteBody o = .ok ()) (bodyBytes (o.getD default)) := by
  cases o with
  | none => exact ⟨nofun, fun _ => ⟨_, rfl⟩⟩
  | some t => exact Decides.check_then (checkTDQuoteBody_ne_panic _) fun _ => rfl

theorem enclaveReportToAbiBytes_decides (o : Option EnclaveReport) :
    Decides (enclaveReportToAbiBytes o) (checkQeReport o = .ok ()) (reportBytes (o.getD default)) := by
  cases o with
  | none => exact ⟨nofun, fun _ => ⟨_, rfl⟩⟩
  | some r => exact Decides.check_then (checkQeReport_ne_panic _) fun _ => rfl

theorem qeAuthDataToAbiBytes_decides (o : Option QeAuthData) :
    Decides (qeAuthDataToAbiBytes o) (checkQeAuthData o = .ok ()) (authBytes (o.getD default)) := by
  cases o with
  | none => exact ⟨nofun, fun _ => ⟨_, rfl⟩⟩
  | some a => exact Decides.check_then (checkQeAuthData_ne_panic _) fun _ => rfl

theorem pckChainToAbiBytes_decides (o : Option PckChainData) :
    Decides (pckChainToAbiBytes o) (checkPckChain o = .ok ()) (pckBytes (o.getD default)) := by
  cases o with
  | none => exact ⟨nofun, fun _ => ⟨_, rfl⟩⟩
  | some p => exact Decides.check_then (checkPckChain_ne_panic _) fun _ => rfl

theorem qeReportCertDataToAbiBytes_decides (o : Option QeReportCertData) :
    Decides (qeReportCertDataToAbiBytes o) (checkQeReportCertData o = .ok ()) (qeCertBytes (o.getD default)) := by
  cases o with
  | none => exact ⟨nofun, fun _ => ⟨_, rfl⟩⟩
  | some q =>
    refine Decides.check_then (checkQeReportCertData_ne_panic _) fun hc => ?_
    obtain ⟨hr, _, ha, hp⟩ := checkQeReportCertData_ok_iff.mp hc
    rw [(enclaveReportToAbiBytes_decides _).ok hr, ok_bind, (qeAuthDataToAbiBytes_decides _).ok ha, ok_bind,
      (pckChainToAbiBytes_decides _).ok hp]
    rfl

theorem certificationDataToAbiBytes_decides (o : Option CertificationData) :
    Decides (certificationDataToAbiBytes o) (checkCertificationData o = .ok ()) (certBytes (o.getD default)) := by
  cases o with
  | none => exact ⟨nofun, fun _ => ⟨_, rfl⟩⟩
  | some c =>
    refine Decides.check_then (checkCertificationData_ne_panic _) fun hc => ?_
    rw [(qeReportCertDataToAbiBytes_decides _).ok (checkCertificationData_ok_iff.mp hc).2]
    rfl

theorem signedDataToAbiBytes_decides (o : Option SignedData) :
    Decides (signedDataToAbiBytes o) (checkSignedData o = .ok ()) (signedBytes (o.getD default)) := by
  cases o with
  | none => exact ⟨nofun, fun _ => ⟨_, rfl⟩⟩
  | some s =>
    refine Decides.check_then (checkSignedData_ne_panic _) fun hc => ?_
    rw [(certificationDataToAbiBytes_decides _).ok (checkSignedData_ok_iff.mp hc).2.2]
    rfl

theorem quoteToAbiBytes_decides (q : QuoteV4) : Decides (quoteToAbiBytes (some q)) (checkQuoteV4 (some q) = .ok ()) (wire q) := by
  refine Decides.check_then (checkQuoteV4_ne_panic _) fun hc => ?_
  obtain ⟨hh, ht, hs⟩ := checkQuoteV4_ok_iff.mp hc
  rw [(headerToAbiBytes_decides _).ok hh, ok_bind, (tdQuoteBodyToAbiBytes_decides _).ok ht, ok_bind,
    (signedDataToAbiBytes_decides _).ok hs]
  rfl

/-- a report that serialises passed `checkQeReport`: its report data are 64 bytes, the last 64 of the 384 written -/
theorem enclaveReportToAbiBytes_ok {o : Option EnclaveReport} {b : Bytes} (h : enclaveReportToAbiBytes o = .ok b) :
    (o.getD default).reportData.length = 64 ∧ (o.getD default).reportData = b.drop 320 := by
  obtain ⟨hc, hb⟩ := (enclaveReportToAbiBytes_decides o).ok_iff.mp h
  rw [eq_some_of_check (chk := checkQeReport) rfl hc] at hc
  obtain ⟨l1, l2, l3, l4, l5, l6, l7, -, -, l10, l11⟩ := checkQeReport_ok_iff.mp hc
  refine ⟨l11, hb ▸ (List.drop_left' ?_).symm⟩
  simp only [List.length_append, toLE32_len, toLE16_len, l1, l2, l3, l4, l5, l6, l7, l10]

@[simp] theorem headerToAbiBytes_ne_panic (o : Option Header) : headerToAbiBytes o ≠ .panic := (headerToAbiBytes_decides o).ne_panic
@[simp] theorem tdQuoteBodyToAbiBytes_ne_panic (o : Option TdQuoteBody) : tdQuoteBodyToAbiBytes o ≠ .panic :=
  (tdQuoteBodyToAbiBytes_decides o).ne_panic
@[simp] theorem enclaveReportToAbiBytes_ne_panic (o : Option EnclaveReport) : enclaveReportToAbiBytes o ≠ .panic :=
  (enclaveReportToAbiBytes_decides o).ne_panic

theorem quoteToAbiBytes_ne_panic (o : Option QuoteV4) : quoteToAbiBytes o ≠ .panic := by
  cases o with
  | none => simp [quoteToAbiBytes]
  | some q => exact (quoteToAbiBytes_decides q).ne_panic

/-- "the two nested size fields say what the lengths really are", in terms of what the serialiser writes -/
theorem sizeConsistent_iff {q : QuoteV4} (hk : Checked q) :
    SizeConsistent q ↔ (qeCertBytes q.qeCert).length = q.cert.size ∧ (signedBytes q.signed).length = q.signedDataSize := by
  have hp := hk.present
  have e1 : (qeCertBytes q.qeCert).length = 384 + 64 + 2 + q.auth.data.length + 6 + q.pck.pckCertChain.length := by
    simp only [qeCertBytes, hp.qeReport, hp.auth, hp.pck, Option.getD_some, List.length_append, length_reportBytes hk.report,
      hk.qeSigLen, length_authBytes, length_pckBytes]
    omega
  have e2 : (signedBytes q.signed).length = 64 + 64 + 6 + (qeCertBytes q.qeCert).length := by
    simp only [signedBytes, certBytes, hp.cert, hp.qeCert, Option.getD_some, List.length_append, hk.sigLen, hk.keyLen, toLE16_len,
      toLE32_len]
    omega
  rw [e2, e1]
  exact ⟨fun ⟨s1, s2⟩ => ⟨s1.symm, by omega⟩, fun ⟨s1, s2⟩ => ⟨s1.symm, by omega⟩⟩

theorem take_wire {q : QuoteV4} (hc : checkQuoteV4 (some q) = .ok ()) :
    (wire q).take 632 = hdrBytes q.hdr ++ bodyBytes q.body ∧ 632 ≤ (wire q).length := by
  have k := checked hc
  have hl : (hdrBytes q.hdr ++ bodyBytes q.body).length = 632 := by
    rw [List.length_append, length_hdrBytes k.header, length_bodyBytes k.body]
  unfold wire
  rw [List.append_assoc (hdrBytes q.hdr ++ bodyBytes q.body), List.append_assoc (hdrBytes q.hdr ++ bodyBytes q.body)]
  exact ⟨List.take_left' hl, by rw [List.length_append, hl]; exact Nat.le_add_right ..⟩

end Tdx.Abi
