/-
  abi: what the parser returns is well formed and has the input as its wire form: level by level, the slices are put
  back side by side.  (The second arrow of the cycle described in `AbiInverse`.)
-/
import TdxProofs.Lemmas.AbiParse

namespace Tdx.Abi

theorem sub_append_sub {b : Bytes} {lo mid hi : Nat} (h1 : lo ≤ mid) (h2 : mid ≤ hi) : sub b lo mid ++ sub b mid hi = sub b lo hi :=
  take_drop_append b h1 h2

theorem sub_append_drop {b : Bytes} {lo hi : Nat} (h1 : lo ≤ hi) : sub b lo hi ++ b.drop hi = b.drop lo := by
  obtain ⟨i, rfl⟩ := Nat.exists_eq_add_of_le h1
  rw [sub_eq_take_drop, Nat.add_sub_cancel_left, ← List.drop_drop, List.take_append_drop]

theorem hdrBytes_hdrOf {b : Bytes} (h : b.length = 48) : hdrBytes (hdrOf b) = b := by
  unfold hdrBytes hdrOf
  simp (disch := first | decide | exact length_sub_le (Nat.le_of_eq h.symm) (by decide)) only [toLE16_le16, toLE32_le32,
    sub_append_sub]
  exact sub_prefix b 48 h.symm

theorem bodyBytes_bodyOf {b : Bytes} (h : b.length = 584) : bodyBytes (bodyOf b) = b := by
  unfold bodyBytes bodyOf
  simp (disch := first | decide | exact length_sub_le (Nat.le_of_eq h.symm) (by decide)) only [fit_eq, List.flatten_cons,
    List.flatten_nil, List.append_nil, sub_append_sub]
  exact sub_prefix b 584 h.symm

theorem reportBytes_reportOf {b : Bytes} (h : b.length = 384) : reportBytes (reportOf b) = b := by
  unfold reportBytes reportOf
  simp (disch := first | decide | exact length_sub_le (Nat.le_of_eq h.symm) (by decide)) only [toLE16_le16, toLE32_le32,
    sub_append_sub]
  exact sub_prefix b 384 h.symm

theorem authBytes_authOf {b : Bytes} (h : AuthOK b) : authBytes (authOf b) = sub b 0 (2 + le16 (sub b 0 2)) := by
  unfold authBytes authOf
  rw [toLE16_le16 (length_sub_le h.1 (by decide)), sub_append_sub (by decide) (by omega)]

theorem pckBytes_pckOf {b : Bytes} (h : PckOK b) : pckBytes (pckOf b) = b := by
  unfold pckBytes pckOf
  rw [toLE16_le16 (length_sub_le h.1 (by decide)), toLE32_le32 (length_sub_le h.1 (by decide)),
    sub_append_sub (by decide) (by decide), sub_append_drop (by decide), List.drop_zero]

theorem qeCertBytes_qeCertOf {b : Bytes} (h : QeCertOK b) : qeCertBytes (qeCertOf b) = b := by
  obtain ⟨h0, ha, hp⟩ := h
  simp only [qeCertBytes, qeCertOf, Option.getD_some]
  rw [reportBytes_reportOf (length_sub_le h0 (by decide)), pckBytes_pckOf hp,
    authBytes_authOf ha, sub_drop, sub_append_sub (by decide) (by decide), sub_append_sub (by decide) (by omega),
    sub_append_drop (by omega), List.drop_zero]

theorem certBytes_certOf {b : Bytes} (h : CertOK b) : certBytes (certOf b) = b := by
  simp only [certBytes, certOf, Option.getD_some]
  rw [toLE16_le16 (length_sub_le h.1 (by decide)), toLE32_le32 (length_sub_le h.1 (by decide)), qeCertBytes_qeCertOf h.2.2.1,
    sub_append_sub (by decide) (by decide), sub_append_drop (by decide), List.drop_zero]

theorem signedBytes_signedOf {b : Bytes} (h : SignedOK b) : signedBytes (signedOf b) = b := by
  simp only [signedBytes, signedOf, Option.getD_some]
  rw [certBytes_certOf h.2, sub_append_sub (by decide) (by decide), sub_append_drop (by decide), List.drop_zero]

theorem wire_quoteOf {b : Bytes} (h : QuoteOK b) : wire (quoteOf b) = b := by
  obtain ⟨h0, _, _, hs⟩ := h
  simp only [wire, quoteOf, QuoteV4.hdr, QuoteV4.body, QuoteV4.signed, Option.getD_some]
  rw [hdrBytes_hdrOf (length_sub_le h0 (by decide)), bodyBytes_bodyOf (length_sub_le h0 (by decide)),
    toLE32_le32 (length_sub_le h0 (by decide)),
    signedBytes_signedOf hs, sub_append_sub (by decide) (by decide), sub_append_sub (by decide) (by decide),
    sub_append_sub (by decide) (by omega), sub_append_drop (by omega), List.drop_zero]

theorem wellFormed_quoteOf {b : Bytes} (h : QuoteOK b) : WellFormed (quoteOf b) where
  present := ⟨rfl, rfl, rfl, rfl, rfl, rfl, rfl, rfl⟩
  check := checkQuoteV4_quoteOf h
  reportData := length_sub_le (n := 584) (le_length_sub h.1 (by decide) (by decide)) (by decide)
  range := by
    constructor
    -- unfolded by hand: unifying `le32 ?x` with a getter of `quoteOf b` is slow, the more so the deeper the level
    all_goals
      simp only [QuoteV4.qeReport, QuoteV4.pck, QuoteV4.qeCert, QuoteV4.cert, QuoteV4.signed, quoteOf, signedOf, certOf, qeCertOf,
        reportOf, pckOf, Option.getD_some]
      exact le32_lt _
  sizes := by
    have hn := h.2.2.1
    have hs := h.2.2.2
    refine (sizeConsistent_iff (checked (checkQuoteV4_quoteOf h))).mpr ⟨?_, ?_⟩
    · exact (congrArg List.length (qeCertBytes_qeCertOf hs.2.2.2.1)).trans hs.2.2.1
    · refine (congrArg List.length (signedBytes_signedOf hs)).trans ?_
      show _ = le32 (sub b 632 636)
      rw [List.length_drop] at hn
      rw [length_sub]
      omega

theorem wire_of_parse {b : Bytes} {q : QuoteV4} (h : quoteToProto b = .ok q) : WellFormed q ∧ wire q = b := by
  obtain ⟨hok, rfl⟩ := (quoteToProto_decides b).ok_iff.mp h
  exact ⟨wellFormed_quoteOf hok, wire_quoteOf hok⟩

end Tdx.Abi
