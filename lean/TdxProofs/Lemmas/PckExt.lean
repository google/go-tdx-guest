/-
  Helper lemmas for C13 (TdxModel.PckExt) and the vocabulary the property theorems are stated in:
  value assignments, their reference encoding as decoded trees, unknown elements.

  Every extractor below the two loop bodies, and each loop as a whole, gets one statement `(f …).Ensures P`
  (Lemmas/Decides.lean), proved by one walk through its definition; `P` says how the value was read off the input
  (of `extractOctetItem` only that it does not panic is needed).  The loop bodies `tcbStep` / `sgxStep` are described by
  equations, one per OID they dispatch on.  The model's own `bindO` is the monad's bind (by `rfl`), so the rules of
  `Ensures`, stated for `>>=`, apply to it as they stand.
-/
import TdxModel.PckExt
import TdxProofs.Lemmas.Decides

namespace Tdx.PckExt

/-- a value assignment: what a PCK certificate's SGX extension encodes -/
structure Vals where
  ppid : Bytes
  comps : Bytes      -- the sixteen component SVNs; a byte each, i.e. exactly the range 0..255
  pcesvn : Nat
  cpusvn : Bytes
  pceid : Bytes
  fmspc : Bytes

structure Vals.WF (v : Vals) : Prop where
  ppid : v.ppid.length = ppidSize
  comps : v.comps.length = nComps
  pcesvn : v.pcesvn ≤ 65535
  cpusvn : v.cpusvn.length = cpuSvnSize
  pceid : v.pceid.length = pceidSize
  fmspc : v.fmspc.length = fmspcSize

/-- TCB element for component `i` (0-based): `SEQUENCE { OID …2.(i+1), INTEGER comps[i] }` -/
def compElem (v : Vals) (i : Nat) : Asn1 := .seq [.oid (compOid (i + 1)), .int ((v.comps[i]?.getD 0).toNat : Int)]
def pceElem (v : Vals) : Asn1 := .seq [.oid oidPCESvn, .int (v.pcesvn : Int)]
def cpuElem (v : Vals) : Asn1 := .seq [.oid oidCPUSvn, .octets v.cpusvn]

/-- the 18 TCB elements in canonical order -/
def tcbElems (v : Vals) : List Asn1 := (List.range nComps).map (compElem v) ++ [pceElem v, cpuElem v]

/-- observation O-4b (DESIGN.md §7): an octet-string item carries its value directly or as a DER OCTET STRING of it -/
def octetVal (wrapped : Bool) (b : Bytes) : Bytes := if wrapped then 4 :: UInt8.ofNat b.length :: b else b

structure Wrap where
  ppid : Bool
  pceid : Bool
  fmspc : Bool

def ppidElem (v : Vals) (w : Wrap) : Asn1 := .seq [.oid oidPPID, .octets (octetVal w.ppid v.ppid)]
def tcbElem (tcb : List Asn1) : Asn1 := .seq [.oid oidTCB, .seq tcb]
def pceidElem (v : Vals) (w : Wrap) : Asn1 := .seq [.oid oidPCEID, .octets (octetVal w.pceid v.pceid)]
def fmspcElem (v : Vals) (w : Wrap) : Asn1 := .seq [.oid oidFMSPC, .octets (octetVal w.fmspc v.fmspc)]

/-- the four SGX sub-extensions the code reads, in canonical order, around a given TCB element list -/
def sgxElems (v : Vals) (w : Wrap) (tcb : List Asn1) : List Asn1 :=
  [ppidElem v w, tcbElem tcb, pceidElem v w, fmspcElem v w]

/-- an SGX sub-extension the code does not read: a well-formed AttributeTypeAndValue with another OID -/
def Unknown (t : Asn1) : Prop :=
  ∃ o x rest, seqElems t = some (.oid o :: x :: rest) ∧ anyOk x = true ∧
    o ≠ oidPPID ∧ o ≠ oidTCB ∧ o ≠ oidPCEID ∧ o ≠ oidFMSPC

def expectedTcb (v : Vals) : Tcb := { pcesvn := v.pcesvn, cpusvn := v.cpusvn, comps := v.comps }

/-- what extraction must return for `v` -/
def expected (v : Vals) : PckExtensions :=
  { ppid := hexOf v.ppid, tcb := expectedTcb v, pceid := hexOf v.pceid, fmspc := hexOf v.fmspc }

/-- the value of an octet-string item is wrongly sized: neither it nor a wrapped value has the size -/
def WrongSize (b : Bytes) (size : Nat) : Prop :=
  b.length ≠ size ∧ ∀ inner : Bytes, inner.length = size → b ≠ 4 :: UInt8.ofNat size :: inner

/-- the SGX extension the code finds decodes to the SEQUENCE `sgx` (with or without bytes after it) -/
def SgxIs (c : Cert) (sgx : List Asn1) : Prop :=
  ∃ trailing, findMatchingExtension c.exts oidSgx = some (.tree (.seq sgx) trailing)

/-- a TCB item: an element whose first two fields are the TCB OID and the SEQUENCE `tcb` -/
def IsTcbItem (t : Asn1) (tcb : List Asn1) : Prop :=
  ∃ rest, seqElems t = some (.oid oidTCB :: .seq tcb :: rest)

theorem err_of_bindO_err {α β} {x : Outcome α} {f : α → Outcome β} (h : ∃ e, x = .err e) : ∃ e, bindO x f = .err e := by
  obtain ⟨e, rfl⟩ := h; exact ⟨e, rfl⟩

theorem bindO_ne_panic {α β} {x : Outcome α} {f : α → Outcome β} (hx : x ≠ .panic) (hf : ∀ a, f a ≠ .panic) :
    bindO x f ≠ .panic :=
  bind_ne_panic hx fun a _ => hf a

/-- the state at which an element was met is not tracked: the error theorems refute its success from every state -/
theorem foldO_ensures {σ α} {step : σ → α → Outcome σ} (h : ∀ s a, step s a ≠ .panic) :
    ∀ l s, (foldO step l s).Ensures fun _ => ∀ a ∈ l, ∃ s s', step s a = .ok s'
  | [], _ => .pure nofun
  | a :: l, s => .bind ⟨h s a, id⟩ fun s' hs' => (foldO_ensures h l s').mono fun _ all b hb => by
    rcases List.mem_cons.mp hb with rfl | hb
    · exact ⟨s, s', hs'⟩
    · exact all b hb

/-- A loop in which every step succeeds, keeps `I`, reaches the goal `G a` of its own element `a` and
    undoes no goal reached before, ends with the goals of all its elements reached: whatever their
    order, however often they occur. -/
theorem foldO_goals {σ α} {step : σ → α → Outcome σ} {I : σ → Prop} {G : α → σ → Prop} {l : List α}
    (h : ∀ a ∈ l, ∀ s, I s → ∃ s', step s a = .ok s' ∧ I s' ∧ G a s' ∧ ∀ b, G b s → G b s') :
    ∀ s, I s → ∃ r, foldO step l s = .ok r ∧ I r ∧ (∀ b, G b s → G b r) ∧ ∀ a ∈ l, G a r := by
  induction l with
  | nil => exact fun s hs => ⟨s, rfl, hs, fun _ hb => hb, nofun⟩
  | cons a l ih =>
    intro s hs
    obtain ⟨s', hstep, hs', ha, keep⟩ := h a (List.mem_cons_self ..) s hs
    obtain ⟨r, hr, hI, keep', all⟩ := ih (fun b hb => h b (List.mem_cons_of_mem _ hb)) s' hs'
    refine ⟨r, by simp [foldO, hstep, hr], hI, fun b hb => keep' b (keep b hb), fun b hb => ?_⟩
    rcases List.mem_cons.mp hb with rfl | hb
    · exact keep' _ ha
    · exact all b hb

theorem unmarshalATV_ensures (t : Asn1) : (unmarshalATV t).Ensures fun p =>
    ∃ rest, seqElems t = some (.oid p.1 :: p.2 :: rest) ∧ anyOk p.2 = true := by
  unfold unmarshalATV; split
  · exact .ite (fun h => .pure ⟨_, ‹_›, h⟩) fun _ => .fail
  · exact .fail

theorem unmarshalRawSeq_ensures (t : Asn1) : (unmarshalRawSeq t).Ensures fun l => t = .seq l := by
  unfold unmarshalRawSeq; split
  · exact .pure rfl
  · exact .fail

theorem unmarshalExtension_ensures (t : Asn1) : (unmarshalExtension t).Ensures fun p => ∃ rest,
    seqElems t = some (.oid p.1 :: .bool true :: .octets p.2 :: rest) ∨ seqElems t = some (.oid p.1 :: .octets p.2 :: rest) := by
  unfold unmarshalExtension; split
  · exact .pure ⟨_, .inl ‹_›⟩
  · exact .pure ⟨_, .inr ‹_›⟩
  · exact .fail

/-- the long form is only accepted for lengths that need it -/
theorem longLen_ensures : ∀ n acc rest, (longLen n acc rest).Ensures fun p => 128 ≤ p.1
  | 0, _, _ => .ite (fun _ => .fail) fun h => .pure (Nat.le_of_not_lt h)
  | _ + 1, _, [] => .fail
  | n + 1, _, _ :: _ => .ite (fun _ => .fail) fun _ => .ite (fun _ => .fail) fun _ => longLen_ensures n _ _

/-- so a length below 128 was read from the one byte that holds it -/
theorem parseLength_ensures : ∀ b, (parseLength b).Ensures fun p => p.1 < 128 → b = UInt8.ofNat p.1 :: p.2
  | [] => .fail
  | _ :: _ => .ite (fun _ => .pure fun _ => by simp) fun _ => .ite (fun _ => .fail) fun _ =>
    (longLen_ensures _ _ _).mono fun _ h hlt => absurd hlt (Nat.not_lt.mpr h)

theorem unmarshalOctetString_ensures : ∀ b, (unmarshalOctetString b).Ensures fun p =>
    p.1.length < 128 → b = 4 :: UInt8.ofNat p.1.length :: (p.1 ++ p.2)
  | [] => .fail
  | t :: rest => .ite (fun _ => .fail) fun ht => .bind (parseLength_ensures rest) fun (len, body) hp =>
    .ite (fun _ => .fail) fun hle => .pure fun hlt => by
      have hlen : (body.take len).length = len := by rw [List.length_take]; omega
      rw [hlen] at hlt ⊢
      rw [Decidable.not_not.mp ht, hp hlt, List.take_append_drop]

/-- what `asn1OctetString` accepts, for the sizes the code uses (< 128): the value itself when it has
    the wanted size, else exactly the DER OCTET STRING `04 size inner` of an `inner` of that size -/
theorem asn1OctetString_ensures (b : Bytes) (size : Nat) : (asn1OctetString b size).Ensures fun r =>
    size < 128 → (b.length = size ∧ r = b) ∨ (r.length = size ∧ b = 4 :: UInt8.ofNat size :: r) :=
  .ite (fun h => .pure fun _ => .inl ⟨h, rfl⟩) fun _ => .bind (unmarshalOctetString_ensures b) fun (octet, rest) hp =>
    .ite (fun _ => .fail) fun hrest => .ite (fun _ => .fail) fun hsize => .pure fun hs => by
      have hr : rest = [] := List.eq_nil_of_length_eq_zero (Decidable.not_not.mp hrest)
      have hz : octet.length = size := Decidable.not_not.mp hsize
      subst hr hz
      exact .inr ⟨rfl, by simpa using hp hs⟩

theorem asn1U8_ensures (x : Asn1) : (asn1U8 x).Ensures fun _ => ∃ v, x = .int v := by
  unfold asn1U8; split
  · exact .ite (fun _ => .fail) fun _ => .pure ⟨_, rfl⟩
  · exact .fail

theorem asn1U16_ensures (x : Asn1) : (asn1U16 x).Ensures fun _ => ∃ v, x = .int v := by
  unfold asn1U16; split
  · exact .ite (fun _ => .fail) fun _ => .pure ⟨_, rfl⟩
  · exact .fail

theorem tcbStep_ne_panic (acc : Tcb) (t : Asn1) : tcbStep acc t ≠ .panic := by
  refine bindO_ne_panic (unmarshalATV_ensures _).ne_panic fun _ =>
    bindO_ne_panic ?comp fun _ => bindO_ne_panic ?pce fun _ => ite_ne ?cpu nofun
  case comp =>
    split
    · exact bindO_ne_panic (asn1U8_ensures _).ne_panic fun _ => nofun
    · nofun
  case pce => exact ite_ne (bindO_ne_panic (asn1U16_ensures _).ne_panic fun _ => nofun) nofun
  case cpu =>
    split
    · exact ite_ne nofun nofun
    · nofun

theorem extractTcb_ensures (t : Asn1) : (extractTcb t).Ensures fun _ =>
    ∃ a tcb, t = .seq [a, .seq tcb] ∧ tcb.length = Gen.pcs_tcbExtensionSize ∧ ∀ e ∈ tcb, ∃ s s', tcbStep s e = .ok s' :=
  .bind (unmarshalRawSeq_ensures t) fun s hs => by
    split
    · exact .bind (unmarshalRawSeq_ensures _) fun l hl => .ite (fun _ => .fail) fun hn =>
        (foldO_ensures tcbStep_ne_panic l tcbInit).mono fun _ all => ⟨_, l, by rw [hs, hl], Decidable.not_not.mp hn, all⟩
    · exact .fail

theorem extractOctetItem_ne_panic (t : Asn1) (n : Nat) : extractOctetItem t n ≠ .panic :=
  bindO_ne_panic (unmarshalExtension_ensures _).ne_panic fun _ =>
  bindO_ne_panic (asn1OctetString_ensures _ _).ne_panic fun _ => nofun

theorem sgxStep_ne_panic (acc : PckExtensions) (t : Asn1) : sgxStep acc t ≠ .panic :=
  bindO_ne_panic (unmarshalATV_ensures _).ne_panic fun _ =>
  bindO_ne_panic (ite_ne (bindO_ne_panic (extractOctetItem_ne_panic _ _) fun _ => nofun) nofun) fun _ =>
  bindO_ne_panic (ite_ne (bindO_ne_panic (extractTcb_ensures _).ne_panic fun _ => nofun) nofun) fun _ =>
  bindO_ne_panic (ite_ne (bindO_ne_panic (extractOctetItem_ne_panic _ _) fun _ => nofun) nofun) fun _ =>
  ite_ne (bindO_ne_panic (extractOctetItem_ne_panic _ _) fun _ => nofun) nofun

theorem extractSgxExtensions_ensures (l : List Asn1) : (extractSgxExtensions l).Ensures fun _ =>
    Gen.pcs_sgxExtensionMinSize ≤ l.length ∧ ∀ t ∈ l, ∃ s s', sgxStep s t = .ok s' :=
  .ite (fun _ => .fail) fun hn => (foldO_ensures sgxStep_ne_panic l {}).mono fun _ all => ⟨Nat.le_of_not_lt hn, all⟩

theorem pckCertificateExtensions_ensures (c : Cert) : (pckCertificateExtensions c).Ensures fun _ =>
    c.exts.length = Gen.pcs_pckCertExtensionSize ∧
    ∃ sgx, findMatchingExtension c.exts oidSgx = some (.tree (.seq sgx) false) ∧ Gen.pcs_sgxExtensionMinSize ≤ sgx.length ∧
      ∀ t ∈ sgx, ∃ s s', sgxStep s t = .ok s' :=
  .ite (fun _ => .fail) fun hn => by
    split
    · exact .fail
    · exact .fail
    · rename_i hf
      refine .bind (unmarshalRawSeq_ensures _) fun l hl => .ite (fun _ => .fail) fun htr => ?_
      rw [hl, eq_false_of_ne_true htr] at hf
      exact (extractSgxExtensions_ensures l).mono fun _ ⟨hmin, all⟩ => ⟨Decidable.not_not.mp hn, l, hf, hmin, all⟩

theorem pckCertificateExtensions_ne_panic (c : Cert) : pckCertificateExtensions c ≠ .panic :=
  (pckCertificateExtensions_ensures c).ne_panic

/-! facts about the OIDs and sizes: evaluation of the regenerated constants `Gen.pcs_*` -/

theorem nComps_eq : nComps = 16 := rfl
theorem oidPCESvn_eq : oidPCESvn = compOid (nComps + 1) := rfl
theorem oidCPUSvn_eq : oidCPUSvn = compOid (nComps + 2) := rfl

theorem compOid_inj {a b : Nat} : compOid a = compOid b ↔ a = b := by
  simp [compOid]

theorem compIndex_eq_some {o : List Nat} {i : Nat} : compIndex o = some i ↔ i < nComps ∧ o = compOid (i + 1) := by
  simp only [compIndex, List.find?_range_eq_some, beq_iff_eq, List.mem_range, Bool.not_eq_eq_eq_not, Bool.not_true,
    beq_eq_false_iff_ne]
  constructor
  · exact fun ⟨h, hi, _⟩ => ⟨hi, h⟩
  · rintro ⟨hi, rfl⟩
    exact ⟨rfl, hi, fun j hj e => by rw [compOid_inj] at e; omega⟩

theorem compIndex_comp {i : Nat} (h : i < nComps) : compIndex (compOid (i + 1)) = some i :=
  compIndex_eq_some.mpr ⟨h, rfl⟩

theorem compIndex_above {k : Nat} (h : nComps < k) : compIndex (compOid k) = none := by
  cases hc : compIndex (compOid k) with
  | none => rfl
  | some i => obtain ⟨hi, e⟩ := compIndex_eq_some.mp hc; rw [compOid_inj] at e; omega

theorem compIndex_pce : compIndex oidPCESvn = none := compIndex_above (k := nComps + 1) (by omega)
theorem compIndex_cpu : compIndex oidCPUSvn = none := compIndex_above (k := nComps + 2) (by omega)

theorem comp_ne_pce {i : Nat} (h : i < nComps) : compOid (i + 1) ≠ oidPCESvn := by
  rw [oidPCESvn_eq, Ne, compOid_inj]; omega

theorem comp_ne_cpu {i : Nat} (h : i < nComps) : compOid (i + 1) ≠ oidCPUSvn := by
  rw [oidCPUSvn_eq, Ne, compOid_inj]; omega

theorem pce_ne_cpu : oidPCESvn ≠ oidCPUSvn := by decide

theorem top_oids_distinct :
    oidPPID ≠ oidTCB ∧ oidPPID ≠ oidPCEID ∧ oidPPID ≠ oidFMSPC ∧ oidTCB ≠ oidPCEID ∧ oidTCB ≠ oidFMSPC ∧ oidPCEID ≠ oidFMSPC := by
  decide

theorem sizes_small : ppidSize < 128 ∧ pceidSize < 128 ∧ fmspcSize < 128 := by decide

/-! ## the two loop bodies by the OID of the element

  Both start with `unmarshalATV`; what follows depends on the OID alone, and since the OIDs are
  distinct at most one branch is taken.  Everything below (exactness and the error theorems) goes
  through these equations and never unfolds `tcbStep` / `sgxStep` again. -/

theorem unmarshalATV_fields {e : Asn1} {o : List Nat} {x : Asn1} {rest : List Asn1}
    (hse : seqElems e = some (.oid o :: x :: rest)) :
    unmarshalATV e = if anyOk x then .ok (o, x) else .err "asn1: ANY value" := by
  unfold unmarshalATV
  rw [hse]

theorem bindO_ok_right {α} (x : Outcome α) : bindO x .ok = x := by cases x <;> rfl

theorem tcbStep_atv_err {e : Asn1} {m : String} (h : unmarshalATV e = .err m) (acc : Tcb) : tcbStep acc e = .err m := by
  rw [tcbStep, h, bindO_err]

theorem tcbStep_comp_eq {e : Asn1} {o : List Nat} {x : Asn1} {i : Nat} (h : unmarshalATV e = .ok (o, x))
    (hi : compIndex o = some i) (acc : Tcb) :
    tcbStep acc e = bindO (asn1U8 x) fun b => .ok { acc with comps := acc.comps.set i b } := by
  obtain ⟨hi', rfl⟩ := compIndex_eq_some.mp hi
  rw [tcbStep, h, bindO_ok]
  simp only [hi, bindO_ok, if_neg (comp_ne_pce hi'), if_neg (comp_ne_cpu hi')]
  exact bindO_ok_right _

theorem tcbStep_pce_eq {e x : Asn1} (h : unmarshalATV e = .ok (oidPCESvn, x)) (acc : Tcb) :
    tcbStep acc e = bindO (asn1U16 x) fun n => .ok { acc with pcesvn := n } := by
  rw [tcbStep, h, bindO_ok]
  simp only [compIndex_pce, bindO_ok, if_true, if_neg pce_ne_cpu]
  exact bindO_ok_right _

theorem tcbStep_cpu_octets {e : Asn1} {b : Bytes} (h : unmarshalATV e = .ok (oidCPUSvn, .octets b)) (acc : Tcb) :
    tcbStep acc e = if b.length ≠ cpuSvnSize then .err "CPUSVN size" else .ok { acc with cpusvn := b } := by
  rw [tcbStep, h, bindO_ok]
  simp only [compIndex_cpu, bindO_ok, if_neg pce_ne_cpu.symm, if_true]

theorem tcbStep_cpu_other {e x : Asn1} (h : unmarshalATV e = .ok (oidCPUSvn, x)) (hx : ∀ b, x ≠ .octets b) (acc : Tcb) :
    tcbStep acc e = .err "CPUSVN type" := by
  rw [tcbStep, h, bindO_ok]
  simp only [compIndex_cpu, bindO_ok, if_neg pce_ne_cpu.symm, if_true]

theorem sgxStep_atv_err {t : Asn1} {m : String} (h : unmarshalATV t = .err m) (acc : PckExtensions) : sgxStep acc t = .err m := by
  rw [sgxStep, h, bindO_err]

theorem sgxStep_ppid_eq {t x : Asn1} (h : unmarshalATV t = .ok (oidPPID, x)) (acc : PckExtensions) :
    sgxStep acc t = bindO (extractOctetItem t ppidSize) fun s => .ok { acc with ppid := s } := by
  obtain ⟨h1, h2, h3, -, -, -⟩ := top_oids_distinct
  rw [sgxStep, h, bindO_ok]
  simp only [bindO_ok, if_true, if_neg h1, if_neg h2, if_neg h3]
  exact bindO_ok_right _

theorem sgxStep_tcb_eq {t x : Asn1} (h : unmarshalATV t = .ok (oidTCB, x)) (acc : PckExtensions) :
    sgxStep acc t = bindO (extractTcb t) fun tcb => .ok { acc with tcb := tcb } := by
  obtain ⟨h1, -, -, h2, h3, -⟩ := top_oids_distinct
  rw [sgxStep, h, bindO_ok]
  simp only [bindO_ok, if_true, if_neg h1.symm, if_neg h2, if_neg h3]
  exact bindO_ok_right _

theorem sgxStep_pceid_eq {t x : Asn1} (h : unmarshalATV t = .ok (oidPCEID, x)) (acc : PckExtensions) :
    sgxStep acc t = bindO (extractOctetItem t pceidSize) fun s => .ok { acc with pceid := s } := by
  obtain ⟨-, h1, -, h2, -, h3⟩ := top_oids_distinct
  rw [sgxStep, h, bindO_ok]
  simp only [bindO_ok, if_true, if_neg h1.symm, if_neg h2.symm, if_neg h3]
  exact bindO_ok_right _

theorem sgxStep_fmspc_eq {t x : Asn1} (h : unmarshalATV t = .ok (oidFMSPC, x)) (acc : PckExtensions) :
    sgxStep acc t = bindO (extractOctetItem t fmspcSize) fun s => .ok { acc with fmspc := s } := by
  obtain ⟨-, -, h1, -, h2, h3⟩ := top_oids_distinct
  rw [sgxStep, h, bindO_ok]
  simp only [bindO_ok, if_true, if_neg h1.symm, if_neg h2.symm, if_neg h3.symm]

theorem sgxStep_unknown (t : Asn1) (ht : Unknown t) (acc : PckExtensions) : sgxStep acc t = .ok acc := by
  obtain ⟨o, x, rest, hse, hany, h1, h2, h3, h4⟩ := ht
  rw [sgxStep, unmarshalATV_fields hse, hany]
  simp only [if_true, bindO_ok, if_neg h1, if_neg h2, if_neg h3, if_neg h4]

/-! ## exactness: the loops on the elements of a value assignment, in any order -/

theorem anyOk_small {n : Nat} (h : n ≤ 65535) : anyOk (.int (n : Int)) = true := by
  simp [anyOk, isInt64]; omega

theorem mem_tcbElems {v : Vals} {t : Asn1} :
    t ∈ tcbElems v ↔ (∃ i, i < nComps ∧ t = compElem v i) ∨ t = pceElem v ∨ t = cpuElem v := by
  simp only [tcbElems, List.mem_append, List.mem_map, List.mem_range, List.mem_cons, List.not_mem_nil, or_false, eq_comm]

theorem tcbElems_length (v : Vals) : (tcbElems v).length = Gen.pcs_tcbExtensionSize := by
  simp [tcbElems, nComps_eq]

theorem tcbStep_comp (v : Vals) (acc : Tcb) {i : Nat} (h : i < nComps) :
    tcbStep acc (compElem v i) = .ok { acc with comps := acc.comps.set i (v.comps[i]?.getD 0) } := by
  generalize hb : v.comps[i]?.getD 0 = b
  have hlt : b.toNat < 256 := UInt8.toNat_lt _
  have hatv : unmarshalATV (compElem v i) = .ok (compOid (i + 1), .int (b.toNat : Int)) := by
    rw [compElem, hb, unmarshalATV_fields rfl, anyOk_small (by omega)]; rfl
  have hr : ¬ ((b.toNat : Int) < 0 ∨ (b.toNat : Int) > 255) := by omega
  simp [tcbStep_comp_eq hatv (compIndex_comp h), asn1U8, hr]

theorem tcbStep_pce (v : Vals) (hv : v.pcesvn ≤ 65535) (acc : Tcb) :
    tcbStep acc (pceElem v) = .ok { acc with pcesvn := v.pcesvn } := by
  have hatv : unmarshalATV (pceElem v) = .ok (oidPCESvn, .int (v.pcesvn : Int)) := by
    rw [pceElem, unmarshalATV_fields rfl, anyOk_small hv]; rfl
  have hr : ¬ ((v.pcesvn : Int) < 0 ∨ (v.pcesvn : Int) > 65535) := by omega
  simp [tcbStep_pce_eq hatv, asn1U16, hr]

theorem tcbStep_cpu (v : Vals) (hv : v.cpusvn.length = cpuSvnSize) (acc : Tcb) :
    tcbStep acc (cpuElem v) = .ok { acc with cpusvn := v.cpusvn } := by
  rw [tcbStep_cpu_octets (b := v.cpusvn) rfl, if_neg (by simp [hv])]

/-- first field of an element, when it is an OID: what the loops dispatch on -/
def oidOf (t : Asn1) : List Nat :=
  match seqElems t with
  | some (.oid o :: _) => o
  | _ => []

/-- the slot that the TCB element with OID `o` is responsible for holds `v`'s value -/
structure TcbGoal (v : Vals) (o : List Nat) (r : Tcb) : Prop where
  comps : ∀ i, i < nComps → o = compOid (i + 1) → r.comps[i]? = v.comps[i]?
  pcesvn : o = oidPCESvn → r.pcesvn = v.pcesvn
  cpusvn : o = oidCPUSvn → r.cpusvn = v.cpusvn

theorem tcbStep_goal (v : Vals) (hv : v.WF) {t : Asn1} (ht : t ∈ tcbElems v) (s : Tcb) (hs : s.comps.length = nComps) :
    ∃ s', tcbStep s t = .ok s' ∧ s'.comps.length = nComps ∧ TcbGoal v (oidOf t) s' ∧
      ∀ b, TcbGoal v (oidOf b) s → TcbGoal v (oidOf b) s' := by
  rcases mem_tcbElems.mp ht with ⟨j, hj, rfl⟩ | rfl | rfl
  · -- slot `i` is right after writing slot `j` if it is slot `j` or was right before
    have slot : ∀ i, i = j ∨ s.comps[i]? = v.comps[i]? → (s.comps.set j (v.comps[j]?.getD 0))[i]? = v.comps[i]? := by
      intro i h
      by_cases hij : j = i
      · subst hij
        have : j < v.comps.length := by rw [hv.comps]; exact hj
        simp [hs, hj, List.getElem?_eq_getElem this]
      · rw [List.getElem?_set_ne hij]; exact h.resolve_left (Ne.symm hij)
    exact ⟨_, tcbStep_comp v s hj, by simpa using hs,
      { comps := fun i _ e => slot i (.inl (Nat.succ_inj.mp (compOid_inj.mp e)).symm)
        pcesvn := fun e => absurd e (comp_ne_pce hj)
        cpusvn := fun e => absurd e (comp_ne_cpu hj) },
      fun _ g => { g with comps := fun i hi e => slot i (.inr (g.comps i hi e)) }⟩
  · exact ⟨_, tcbStep_pce v hv.pcesvn s, hs,
      { comps := fun i hi e => absurd e.symm (comp_ne_pce hi)
        pcesvn := fun _ => rfl
        cpusvn := fun e => absurd e pce_ne_cpu },
      fun _ g => { g with pcesvn := fun _ => rfl }⟩
  · exact ⟨_, tcbStep_cpu v hv.cpusvn s, hs,
      { comps := fun i hi e => absurd e.symm (comp_ne_cpu hi)
        pcesvn := fun e => absurd e.symm pce_ne_cpu
        cpusvn := fun _ => rfl },
      fun _ g => { g with cpusvn := fun _ => rfl }⟩

theorem extractTcbExtension_of_mem (v : Vals) (hv : v.WF) (tcb : List Asn1) (hmem : ∀ t, t ∈ tcb ↔ t ∈ tcbElems v) :
    extractTcbExtension tcb = .ok (expectedTcb v) := by
  obtain ⟨r, hr, hlen, -, all⟩ := foldO_goals (I := fun s => s.comps.length = nComps) (G := fun t => TcbGoal v (oidOf t))
    (fun t ht => tcbStep_goal v hv ((hmem t).mp ht)) tcbInit (by simp [tcbInit, zeros])
  have goal : ∀ t, t ∈ tcbElems v → TcbGoal v (oidOf t) r := fun t ht => all t ((hmem t).mpr ht)
  have hc : r.comps = v.comps := by
    apply List.ext_getElem?
    intro i
    by_cases hi : i < nComps
    · exact (goal _ (mem_tcbElems.mpr (.inl ⟨i, hi, rfl⟩))).comps i hi rfl
    · rw [List.getElem?_eq_none (by omega), List.getElem?_eq_none (by rw [hv.comps]; omega)]
  have hp : r.pcesvn = v.pcesvn := (goal _ (mem_tcbElems.mpr (.inr (.inl rfl)))).pcesvn rfl
  have hu : r.cpusvn = v.cpusvn := (goal _ (mem_tcbElems.mpr (.inr (.inr rfl)))).cpusvn rfl
  rw [extractTcbExtension, hr, expectedTcb, ← hc, ← hp, ← hu]

/-! ## `asn1OctetString` (O-4b) -/

theorem wrongSize_of_length {b : Bytes} {size : Nat} (h : b.length ≠ size) (hw : b.length ≠ size + 2) : WrongSize b size :=
  ⟨h, fun inner hi e => hw (by rw [e, List.length_cons, List.length_cons, hi])⟩

theorem asn1OctetString_wrongSize {b : Bytes} {size : Nat} (hs : size < 128) (hw : WrongSize b size) :
    ∃ e, asn1OctetString b size = .err e :=
  (asn1OctetString_ensures b size).err fun r hr => (hr hs).elim (fun h => hw.1 h.1) fun h => hw.2 r h.1 h.2

theorem asn1OctetString_octetVal (w : Bool) (b : Bytes) (size : Nat) (hb : b.length = size) (hs : size < 128) :
    asn1OctetString (octetVal w b) size = .ok b := by
  subst hb
  cases w with
  | false => simp [octetVal, asn1OctetString]
  | true =>
    have h1 : (UInt8.ofNat b.length).toNat = b.length := by
      rw [UInt8.toNat_ofNat']; omega
    have h3 : ¬ (b.length + 1 + 1 = b.length) := by omega
    simp [octetVal, asn1OctetString, unmarshalOctetString, parseLength, h1, hs, h3]

/-! ## the SGX loop on the elements of a value assignment and unknown elements, in any order -/

theorem extractOctetItem_plain {o : List Nat} {w : Bool} {b : Bytes} {size : Nat} (hb : b.length = size) (hs : size < 128) :
    extractOctetItem (.seq [.oid o, .octets (octetVal w b)]) size = .ok (hexOf b) := by
  simp [extractOctetItem, unmarshalExtension, seqElems, asn1OctetString_octetVal w b size hb hs]

theorem sgxStep_ppid (v : Vals) (hv : v.WF) (w : Wrap) (acc : PckExtensions) :
    sgxStep acc (ppidElem v w) = .ok { acc with ppid := hexOf v.ppid } := by
  rw [sgxStep_ppid_eq (x := .octets (octetVal w.ppid v.ppid)) rfl, ppidElem, extractOctetItem_plain hv.ppid sizes_small.1]; rfl

theorem sgxStep_pceid (v : Vals) (hv : v.WF) (w : Wrap) (acc : PckExtensions) :
    sgxStep acc (pceidElem v w) = .ok { acc with pceid := hexOf v.pceid } := by
  rw [sgxStep_pceid_eq (x := .octets (octetVal w.pceid v.pceid)) rfl, pceidElem, extractOctetItem_plain hv.pceid sizes_small.2.1]; rfl

theorem sgxStep_fmspc (v : Vals) (hv : v.WF) (w : Wrap) (acc : PckExtensions) :
    sgxStep acc (fmspcElem v w) = .ok { acc with fmspc := hexOf v.fmspc } := by
  rw [sgxStep_fmspc_eq (x := .octets (octetVal w.fmspc v.fmspc)) rfl, fmspcElem, extractOctetItem_plain hv.fmspc sizes_small.2.2]; rfl

theorem extractTcb_seq (a : Asn1) (tcb : List Asn1) :
    extractTcb (.seq [a, .seq tcb]) =
      if tcb.length ≠ Gen.pcs_tcbExtensionSize then .err "TCB extension size" else extractTcbExtension tcb := rfl

theorem sgxStep_tcb (v : Vals) (hv : v.WF) (tcb : List Asn1) (hσ : tcb.Perm (tcbElems v)) (acc : PckExtensions) :
    sgxStep acc (tcbElem tcb) = .ok { acc with tcb := expectedTcb v } := by
  have hlen : tcb.length = Gen.pcs_tcbExtensionSize := by rw [hσ.length_eq, tcbElems_length]
  rw [sgxStep_tcb_eq (x := .seq tcb) rfl, tcbElem, extractTcb_seq, if_neg (by simp [hlen]), extractTcbExtension_of_mem v hv tcb fun _ => hσ.mem_iff]; rfl

/-- the field that the sub-extension with OID `o` is responsible for holds `v`'s value -/
structure SgxGoal (v : Vals) (o : List Nat) (r : PckExtensions) : Prop where
  ppid : o = oidPPID → r.ppid = hexOf v.ppid
  tcb : o = oidTCB → r.tcb = expectedTcb v
  pceid : o = oidPCEID → r.pceid = hexOf v.pceid
  fmspc : o = oidFMSPC → r.fmspc = hexOf v.fmspc

/-- in the shape `foldO_goals` asks for; the SGX loop needs no invariant, hence `True` -/
theorem sgxStep_goal (v : Vals) (hv : v.WF) (w : Wrap) (tcb : List Asn1) (hσ : tcb.Perm (tcbElems v)) {t : Asn1}
    (ht : t ∈ sgxElems v w tcb ∨ Unknown t) (s : PckExtensions) :
    ∃ s', sgxStep s t = .ok s' ∧ True ∧ SgxGoal v (oidOf t) s' ∧ ∀ b, SgxGoal v (oidOf b) s → SgxGoal v (oidOf b) s' := by
  obtain ⟨n12, n13, n14, n23, n24, n34⟩ := top_oids_distinct
  rcases ht with ht | ht
  · simp only [sgxElems, List.mem_cons, List.not_mem_nil, or_false] at ht
    rcases ht with rfl | rfl | rfl | rfl
    · exact ⟨_, sgxStep_ppid v hv w s, trivial,
        ⟨fun _ => rfl, fun e => absurd e n12, fun e => absurd e n13, fun e => absurd e n14⟩,
        fun _ g => { g with ppid := fun _ => rfl }⟩
    · exact ⟨_, sgxStep_tcb v hv tcb hσ s, trivial,
        ⟨fun e => absurd e.symm n12, fun _ => rfl, fun e => absurd e n23, fun e => absurd e n24⟩,
        fun _ g => { g with tcb := fun _ => rfl }⟩
    · exact ⟨_, sgxStep_pceid v hv w s, trivial,
        ⟨fun e => absurd e.symm n13, fun e => absurd e.symm n23, fun _ => rfl, fun e => absurd e n34⟩,
        fun _ g => { g with pceid := fun _ => rfl }⟩
    · exact ⟨_, sgxStep_fmspc v hv w s, trivial,
        ⟨fun e => absurd e.symm n14, fun e => absurd e.symm n24, fun e => absurd e.symm n34, fun _ => rfl⟩,
        fun _ g => { g with fmspc := fun _ => rfl }⟩
  · refine ⟨s, sgxStep_unknown t ht s, trivial, ?_, fun _ g => g⟩
    obtain ⟨o, x, rest, hse, _, h1, h2, h3, h4⟩ := ht
    have : oidOf t = o := by simp [oidOf, hse]
    rw [this]
    exact ⟨fun e => absurd e h1, fun e => absurd e h2, fun e => absurd e h3, fun e => absurd e h4⟩

theorem extractSgxExtensions_perm (v : Vals) (hv : v.WF) (w : Wrap) (tcb sgx extra : List Asn1)
    (hσ : tcb.Perm (tcbElems v)) (hπ : sgx.Perm (sgxElems v w tcb ++ extra)) (hx : ∀ t ∈ extra, Unknown t) :
    extractSgxExtensions sgx = .ok (expected v) := by
  have hmem : ∀ t, t ∈ sgx ↔ t ∈ sgxElems v w tcb ∨ t ∈ extra := fun t => by rw [hπ.mem_iff, List.mem_append]
  have hlen : ¬ sgx.length < Gen.pcs_sgxExtensionMinSize := by
    rw [hπ.length_eq]; simp [sgxElems]
  obtain ⟨r, hr, -, -, all⟩ := foldO_goals (I := fun _ => True) (G := fun t => SgxGoal v (oidOf t))
    (fun t ht s _ => sgxStep_goal v hv w tcb hσ (((hmem t).mp ht).imp id (hx t)) s) {} trivial
  have goal : ∀ t, t ∈ sgxElems v w tcb → SgxGoal v (oidOf t) r := fun t ht => all t ((hmem t).mpr (.inl ht))
  have e1 : r.ppid = _ := (goal (ppidElem v w) (by simp [sgxElems])).ppid rfl
  have e2 : r.tcb = _ := (goal (tcbElem tcb) (by simp [sgxElems])).tcb rfl
  have e3 : r.pceid = _ := (goal (pceidElem v w) (by simp [sgxElems])).pceid rfl
  have e4 : r.fmspc = _ := (goal (fmspcElem v w) (by simp [sgxElems])).fmspc rfl
  rw [extractSgxExtensions, if_neg hlen, hr, expected, ← e1, ← e2, ← e3, ← e4]

theorem pck_of_sgx {c : Cert} {sgx : List Asn1} (hn : c.exts.length = Gen.pcs_pckCertExtensionSize)
    (hf : findMatchingExtension c.exts oidSgx = some (.tree (.seq sgx) false)) :
    pckCertificateExtensions c = extractSgxExtensions sgx := by
  simp only [pckCertificateExtensions, hf, unmarshalRawSeq, bindO_ok, if_neg (not_not_intro hn)]
  rfl

/-! ## error propagation: one bad element anywhere makes the whole extraction fail -/

/-- extraction succeeds only when the SGX extension found is a clean SEQUENCE with nothing after it -/
theorem cert_err_of_find {c : Cert} {x : Option ExtVal} (hf : findMatchingExtension c.exts oidSgx = x)
    (hx : ∀ sgx, x ≠ some (.tree (.seq sgx) false)) : ∃ m, pckCertificateExtensions c = .err m :=
  (pckCertificateExtensions_ensures c).err fun _ ⟨_, sgx, hf', _⟩ => hx sgx (hf ▸ hf')

/-- a step that fails from every state is not among the steps that succeeded from some state (`foldO_ensures`) -/
theorem not_step_ok {σ α} {step : σ → α → Outcome σ} {a : α} (hbad : ∀ s, ∃ e, step s a = .err e) :
    ¬ ∃ s s', step s a = .ok s' := by
  rintro ⟨s, s', hs⟩
  obtain ⟨e, he⟩ := hbad s
  rw [he] at hs
  cases hs

theorem cert_err_of_bad_elem {c : Cert} {sgx : List Asn1} {t : Asn1} (hc : SgxIs c sgx) (ht : t ∈ sgx)
    (hbad : ∀ s, ∃ e, sgxStep s t = .err e) : ∃ e, pckCertificateExtensions c = .err e := by
  obtain ⟨trailing, hf⟩ := hc
  refine (pckCertificateExtensions_ensures c).err fun _ ⟨_, sgx', hf', _, all⟩ => ?_
  rw [hf] at hf'
  cases hf'
  exact not_step_ok hbad (all t ht)

theorem unmarshalATV_cases {e : Asn1} {o : List Nat} {x : Asn1} {rest : List Asn1}
    (hse : seqElems e = some (.oid o :: x :: rest)) :
    unmarshalATV e = .ok (o, x) ∨ unmarshalATV e = .err "asn1: ANY value" := by
  rw [unmarshalATV_fields hse]; split
  · exact .inl rfl
  · exact .inr rfl

theorem cert_err_of_bad_field {c : Cert} {sgx : List Asn1} {t : Asn1} {o : List Nat} {x : Asn1} {rest : List Asn1}
    (hc : SgxIs c sgx) (ht : t ∈ sgx) (hse : seqElems t = some (.oid o :: x :: rest))
    (hbad : unmarshalATV t = .ok (o, x) → ∀ s, ∃ e, sgxStep s t = .err e) : ∃ e, pckCertificateExtensions c = .err e :=
  cert_err_of_bad_elem hc ht fun s => (unmarshalATV_cases hse).elim (hbad · s) fun h => ⟨_, sgxStep_atv_err h s⟩

theorem cert_err_of_bad_tcb_elem {c : Cert} {sgx tcb : List Asn1} {t e : Asn1} (hc : SgxIs c sgx) (ht : t ∈ sgx)
    (htcb : IsTcbItem t tcb) (he : e ∈ tcb) (hbad : ∀ s, ∃ m, tcbStep s e = .err m) :
    ∃ m, pckCertificateExtensions c = .err m := by
  obtain ⟨rest, hse⟩ := htcb
  refine cert_err_of_bad_field hc ht hse fun h s => ?_
  rw [sgxStep_tcb_eq h]
  refine err_of_bindO_err ((extractTcb_ensures t).err fun _ ⟨a, tcb', ht', _, all⟩ => ?_)
  subst ht'
  cases hse
  exact not_step_ok hbad (all e he)

theorem cert_err_of_bad_tcb_field {c : Cert} {sgx tcb : List Asn1} {t e : Asn1} {o : List Nat} {x : Asn1} {rest : List Asn1}
    (hc : SgxIs c sgx) (ht : t ∈ sgx) (htcb : IsTcbItem t tcb) (he : e ∈ tcb) (hse : seqElems e = some (.oid o :: x :: rest))
    (hbad : unmarshalATV e = .ok (o, x) → ∀ s, ∃ m, tcbStep s e = .err m) : ∃ m, pckCertificateExtensions c = .err m :=
  cert_err_of_bad_tcb_elem hc ht htcb he fun s => (unmarshalATV_cases hse).elim (hbad · s) fun h => ⟨_, tcbStep_atv_err h s⟩

end Tdx.PckExt
