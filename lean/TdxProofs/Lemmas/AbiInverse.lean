/-
  abi: parser and serialiser are inverse to each other, and both agree with the reference parser.  Three implications
  close a cycle:
    the reference parser returns `q` on `b`  ⇒  the parser does (`quoteOK_of_specParse`: cursor positions are offsets)
    the parser returns `q` on `b`  ⇒  `q` is well formed and `wire q = b` (`wire_of_parse`)
    `q` is well formed  ⇒  the reference parser returns `q` on `wire q` (`specParse_wire`)
-/
import TdxProofs.Lemmas.AbiSpecOffsets
import TdxProofs.Lemmas.AbiWire
import TdxProofs.Lemmas.AbiSpecWire

namespace Tdx.Abi

theorem quoteToProto_wire {q : QuoteV4} (wf : WellFormed q) : quoteToProto (wire q) = .ok q :=
  (quoteToProto_decides _).ok_iff.mpr (quoteOK_of_specParse (specParse_wire wf))

theorem quoteToProto_ok_iff_wire {b : Bytes} {q : QuoteV4} : quoteToProto b = .ok q ↔ WellFormed q ∧ wire q = b := by
  constructor
  · exact wire_of_parse
  · rintro ⟨wf, rfl⟩
    exact quoteToProto_wire wf

theorem specParse_eq_some_iff {b : Bytes} {q : QuoteV4} : specParse b = some q ↔ quoteToProto b = .ok q := by
  constructor
  · exact fun h => (quoteToProto_decides b).ok_iff.mpr (quoteOK_of_specParse h)
  · intro h
    obtain ⟨wf, rfl⟩ := quoteToProto_ok_iff_wire.mp h
    exact specParse_wire wf

theorem append_inj_of_length {x x' r r' : Bytes} {n : Nat} (h : x ++ r = x' ++ r') (l : x.length = n) (l' : x'.length = n) :
    x = x' ∧ r = r' :=
  List.append_inj h (l.trans l'.symm)

/-- Inconsistent sizes are never mis-parsed: if the parser accepts what the serialiser wrote for a checked, in-range
    message, the message's size fields were consistent.  What it returns is well formed and has the same wire form; both
    messages are checked, so the two concatenations split at the same places, and piece by piece the four size fields and
    the two lengths they speak of agree. -/
theorem sizeConsistent_of_reparse {q q' : QuoteV4} (hc : checkQuoteV4 (some q) = .ok ()) (hr : InRange q)
    (hp : quoteToProto (wire q) = .ok q') : SizeConsistent q := by
  obtain ⟨⟨-, hc', -, hr', s1, s2⟩, hw⟩ := quoteToProto_ok_iff_wire.mp hp
  have k := checked hc
  have k' := checked hc'
  simp only [wire, signedBytes, certBytes, qeCertBytes, authBytes, pckBytes, k.present.cert, k.present.qeCert, k.present.qeReport,
    k.present.auth, k.present.pck, k'.present.cert, k'.present.qeCert, k'.present.qeReport, k'.present.auth, k'.present.pck,
    Option.getD_some, List.append_assoc] at hw
  obtain ⟨-, hw⟩ := append_inj_of_length hw (length_hdrBytes k'.header) (length_hdrBytes k.header)
  obtain ⟨-, hw⟩ := append_inj_of_length hw (length_bodyBytes k'.body) (length_bodyBytes k.body)
  obtain ⟨en, hw⟩ := append_inj_of_length hw (toLE32_len _) (toLE32_len _)
  obtain ⟨-, hw⟩ := append_inj_of_length hw k'.sigLen k.sigLen
  obtain ⟨-, hw⟩ := append_inj_of_length hw k'.keyLen k.keyLen
  obtain ⟨-, hw⟩ := append_inj_of_length hw (toLE16_len _) (toLE16_len _)
  obtain ⟨ec, hw⟩ := append_inj_of_length hw (toLE32_len _) (toLE32_len _)
  obtain ⟨-, hw⟩ := append_inj_of_length hw (length_reportBytes k'.report) (length_reportBytes k.report)
  obtain ⟨-, hw⟩ := append_inj_of_length hw k'.qeSigLen k.qeSigLen
  obtain ⟨ea, hw⟩ := append_inj_of_length hw (toLE16_len _) (toLE16_len _)
  replace ea := congrArg le16 ea
  rw [le16_toLE16 k'.authRange, le16_toLE16 k.authRange, k'.authSize, k.authSize] at ea
  obtain ⟨-, hw⟩ := append_inj_of_length hw rfl ea.symm
  obtain ⟨-, hw⟩ := append_inj_of_length hw (toLE16_len _) (toLE16_len _)
  obtain ⟨ep, -⟩ := append_inj_of_length hw (toLE32_len _) (toLE32_len _)
  replace en := congrArg le32 en
  replace ec := congrArg le32 ec
  replace ep := congrArg le32 ep
  rw [le32_toLE32 hr'.signedDataSize, le32_toLE32 hr.signedDataSize] at en
  rw [le32_toLE32 hr'.certSize, le32_toLE32 hr.certSize] at ec
  rw [le32_toLE32 hr'.pckSize, le32_toLE32 hr.pckSize, k'.pckSize, k.pckSize] at ep
  exact ⟨by omega, by omega⟩

end Tdx.Abi
