/-
  abi: the parser in absolute terms — it accepts exactly the byte strings that follow the declarative layout
  `V4Layout`, and every field of the result is the slice of the input that `FieldsAreSlices` names.
-/
import TdxProofs.Lemmas.AbiParse

namespace Tdx.Abi

theorem quoteOK_iff_layout (b : Bytes) : QuoteOK b ↔ V4Layout b := by
  unfold QuoteOK HdrOK V4Layout SignedOK CertOK QeCertOK AuthOK PckOK
  simp (disch := decide) only [sub_sub, sub_drop, List.drop_drop, List.length_drop, length_sub, Nat.reduceAdd, Nat.add_zero]
  generalize le32 (sub b 632 636) = n
  generalize sub b 636 (636 + n) = sd
  -- `sd` starts at byte 636; the size of the authentication data is at 582 = 64 + 64 + 6 + 384 + 64 in it (1218 absolute)
  generalize le16 (sub sd 582 584) = a
  -- both sides now speak of offsets in `sd`; sums around `a` to the form `numeral + a`, lengths of drops to positions
  simp (disch := first | decide | omega) only [Nat.sub_sub, pos_le_sub, Nat.add_right_comm _ a, ← Nat.add_assoc, Nat.reduceAdd]
  omega

/-- every field at its absolute offset -/
def absQuote (b : Bytes) : QuoteV4 :=
  let n := le32 (sub b 632 636)
  let a := le16 (sub b 1218 1220)
  ⟨some ⟨le16 (sub b 0 2), le16 (sub b 2 4), le32 (sub b 4 8), sub b 8 10, sub b 10 12, sub b 12 28, sub b 28 48⟩,
   some ⟨sub b 48 64, sub b 64 112, sub b 112 160, sub b 160 168, sub b 168 176, sub b 176 184, sub b 184 232, sub b 232 280,
         sub b 280 328, sub b 328 376, [sub b 376 424, sub b 424 472, sub b 472 520, sub b 520 568], sub b 568 632⟩,
   n,
   some ⟨sub b 636 700, sub b 700 764,
     some ⟨le16 (sub b 764 766), le32 (sub b 766 770),
       some ⟨some ⟨sub b 770 786, le32 (sub b 786 790), sub b 790 818, sub b 818 834, sub b 834 866, sub b 866 898,
                   sub b 898 930, sub b 930 1026, le16 (sub b 1026 1028), le16 (sub b 1028 1030), sub b 1030 1090,
                   sub b 1090 1154⟩,
             sub b 1154 1218,
             some ⟨a, sub b 1220 (1220 + a)⟩,
             some ⟨le16 (sub b (1220 + a) (1222 + a)), le32 (sub b (1222 + a) (1226 + a)), sub b (1226 + a) (636 + n)⟩⟩⟩⟩,
   b.drop (636 + n)⟩

theorem quoteOf_eq_abs {b : Bytes} (h : QuoteOK b) : quoteOf b = absQuote b := by
  -- the signed data end at byte 636 + n and hold at least 590 + a bytes: 582 in front of the authentication data's size,
  -- its 2 bytes, the `a` bytes themselves and the 6-byte header of the PCK chain
  have hl := (quoteOK_iff_layout b).mp h
  unfold V4Layout at hl
  simp only [sub_drop, List.length_drop, length_sub, Nat.reduceAdd] at hl
  obtain ⟨-, -, -, -, hn, -, -, -, -, ha, -⟩ := hl
  have h1220 : 1220 ≤ 636 + le32 (sub b 632 636) := by omega
  unfold quoteOf absQuote hdrOf bodyOf signedOf certOf qeCertOf reportOf authOf pckOf
  simp only [drop_sub, Nat.reduceAdd]
  -- the fields in front of the authentication data, then the four behind its size field
  simp (disch := decide) only [sub_sub_le b h1220, sub_sub, Nat.reduceAdd, Nat.add_zero] at ha ⊢
  generalize le16 (sub b 1218 1220) = a at ha ⊢
  simp (disch := omega) only [sub_sub, Nat.add_right_comm _ a, ← Nat.add_assoc, Nat.reduceAdd]

theorem quoteToProto_ok_iff_abs {b : Bytes} {q : QuoteV4} : quoteToProto b = .ok q ↔ V4Layout b ∧ q = absQuote b := by
  rw [(quoteToProto_decides b).ok_iff, ← quoteOK_iff_layout]
  exact and_congr_right fun h => by rw [quoteOf_eq_abs h]

theorem fieldsAreSlices_abs (b : Bytes) : FieldsAreSlices b (absQuote b) := by
  constructor <;> first | rfl | exact ⟨rfl, rfl, rfl, rfl, rfl, rfl, rfl, rfl⟩

/-- a fully populated quote, rebuilt from its getters (equal to it by `allPresent_shape` and eta) -/
def ofGetters (q : QuoteV4) : QuoteV4 :=
  ⟨some ⟨q.hdr.version, q.hdr.attestationKeyType, q.hdr.teeType, q.hdr.pceSvn, q.hdr.qeSvn, q.hdr.qeVendorId, q.hdr.userData⟩,
   some ⟨q.body.teeTcbSvn, q.body.mrSeam, q.body.mrSignerSeam, q.body.seamAttributes, q.body.tdAttributes, q.body.xfam,
         q.body.mrTd, q.body.mrConfigId, q.body.mrOwner, q.body.mrOwnerConfig, q.body.rtmrs, q.body.reportData⟩,
   q.signedDataSize,
   some ⟨q.signed.signature, q.signed.ecdsaAttestationKey,
     some ⟨q.cert.certificateDataType, q.cert.size,
       some ⟨some ⟨q.qeReport.cpuSvn, q.qeReport.miscSelect, q.qeReport.reserved1, q.qeReport.attributes, q.qeReport.mrEnclave,
                   q.qeReport.reserved2, q.qeReport.mrSigner, q.qeReport.reserved3, q.qeReport.isvProdId, q.qeReport.isvSvn,
                   q.qeReport.reserved4, q.qeReport.reportData⟩,
             q.qeCert.qeReportSignature,
             some ⟨q.auth.parsedDataSize, q.auth.data⟩,
             some ⟨q.pck.certificateDataType, q.pck.size, q.pck.pckCertChain⟩⟩⟩⟩,
   q.extraBytes⟩

theorem eq_abs_of_fieldsAreSlices {b : Bytes} {q : QuoteV4} (h : FieldsAreSlices b q) : q = absQuote b := by
  rw [show q = ofGetters q from allPresent_shape h.present]
  unfold ofGetters absQuote
  simp only [h.version, h.attestationKeyType, h.teeType, h.pceSvn, h.qeSvn, h.qeVendorId, h.userData,
    h.teeTcbSvn, h.mrSeam, h.mrSignerSeam, h.seamAttributes, h.tdAttributes, h.xfam, h.mrTd, h.mrConfigId, h.mrOwner,
    h.mrOwnerConfig, h.rtmrs, h.reportData, h.signedDataSize, h.signature, h.attestationKey, h.certType, h.certSize,
    h.cpuSvn, h.miscSelect, h.reserved1, h.attributes, h.mrEnclave, h.reserved2, h.mrSigner, h.reserved3, h.isvProdId,
    h.isvSvn, h.reserved4, h.qeReportData, h.qeReportSignature, h.authSize, h.authData, h.pckType, h.pckSize, h.pckChain,
    h.extraBytes]

end Tdx.Abi
