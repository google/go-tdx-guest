/-
  abi: the reference parser `specParse` reads a well-formed message back from its wire form: its cursor peels the
  concatenation apart again.  (The third arrow of the cycle described in `AbiInverse`; it needs the serialiser side only.)
-/
import TdxProofs.Lemmas.AbiCheck

namespace Tdx.Abi

theorem next_append {x : Bytes} {n : Nat} (h : x.length = n) (r : Bytes) : next n (x ++ r) = some (x, r) := by
  subst h; simp [next]

theorem readRecord_cons_append {name : String} {n : Nat} {tbl : Table} {x : Bytes} (h : x.length = n) (r : Bytes) :
    readRecord ((name, n) :: tbl) (x ++ r) = (readRecord tbl r).bind fun p => some (x :: p.1, p.2) := by
  simp only [readRecord, next_append h, Option.bind_eq_bind, Option.bind_some, Option.pure_def]

theorem optGuard_bind_of {β} {p : Prop} [Decidable p] (h : p) (f : Unit → Option β) : (guard p : Option Unit).bind f = f () := by
  simp [guard, h]

theorem readRecord_nil (r : Bytes) : readRecord [] r = some ([], r) := rfl

theorem specHeader_hdrBytes {h : Header} (hc : checkHeader (some h) = .ok ()) (r : Bytes) :
    specHeader (hdrBytes h ++ r) = some (h, r) := by
  obtain ⟨h1, h2, h3, l1, l2, l3, l4⟩ := checkHeader_ok_iff.mp hc
  obtain ⟨v, k, t, pce, qe, ven, ud⟩ := h
  dsimp only at h1 h2 h3 l1 l2 l3 l4
  subst h1 h2 h3
  simp only [specHeader, headerTable, hdrBytes, List.append_assoc, readRecord_cons_append (toLE16_len _),
    readRecord_cons_append (toLE32_len _), readRecord_cons_append l1, readRecord_cons_append l2, readRecord_cons_append l3,
    readRecord_cons_append l4, readRecord_nil, Option.bind_eq_bind, Option.bind_some, Option.pure_def]
  rfl

theorem specBody_bodyBytes {t : TdQuoteBody} (hc : checkTDQuoteBody (some t) = .ok ()) (r : Bytes) :
    specBody (bodyBytes t ++ r) = some (t, r) := by
  obtain ⟨l1, l2, l3, l4, l5, l6, l7, l8, l9, l10, l11, l12, l13⟩ := checkTDQuoteBody_ok_iff.mp hc
  obtain ⟨tee, seam, sseam, sattr, tattr, xfam, mrtd, cfg, own, ownc, rtmrs, rd⟩ := t
  dsimp only at l1 l2 l3 l4 l5 l6 l7 l8 l9 l10 l11 l12 l13
  match rtmrs, l12 with
  | [r0, r1, r2, r3], _ =>
    simp only [List.mem_cons, List.not_mem_nil, or_false, forall_eq_or_imp, forall_eq] at l13
    obtain ⟨m0, m1, m2, m3⟩ := l13
    simp only [specBody, tdBodyTable, bodyBytes, fit_eq l11, List.flatten_cons, List.flatten_nil, List.append_nil,
      List.append_assoc, readRecord_cons_append l1, readRecord_cons_append l2, readRecord_cons_append l3,
      readRecord_cons_append l4, readRecord_cons_append l5, readRecord_cons_append l6, readRecord_cons_append l7,
      readRecord_cons_append l8, readRecord_cons_append l9, readRecord_cons_append l10, readRecord_cons_append l11,
      readRecord_cons_append m0, readRecord_cons_append m1, readRecord_cons_append m2, readRecord_cons_append m3,
      readRecord_nil, Option.bind_eq_bind, Option.bind_some, Option.pure_def]

theorem specReport_reportBytes {x : EnclaveReport} (hc : checkQeReport (some x) = .ok ()) (hm : x.miscSelect < 2 ^ 32) (r : Bytes) :
    specReport (reportBytes x ++ r) = some (x, r) := by
  obtain ⟨l1, l2, l3, l4, l5, l6, l7, l8, l9, l10, l11⟩ := checkQeReport_ok_iff.mp hc
  simp only [specReport, qeReportTable, reportBytes, List.append_assoc, readRecord_cons_append (toLE16_len _),
    readRecord_cons_append (toLE32_len _), readRecord_cons_append l1, readRecord_cons_append l2, readRecord_cons_append l3,
    readRecord_cons_append l4, readRecord_cons_append l5, readRecord_cons_append l6, readRecord_cons_append l7,
    readRecord_cons_append l10, readRecord_cons_append l11, readRecord_nil, Option.bind_eq_bind, Option.bind_some,
    Option.pure_def, le32_toLE32 hm, le16_toLE16 l8, le16_toLE16 l9]

theorem specParse_wire {q : QuoteV4} (wf : WellFormed q) : specParse (wire q) = some q := by
  obtain ⟨hp, hc, _, ⟨r1, r2, r3, r4⟩, hs⟩ := wf
  obtain ⟨-, hh, ht, l1, l2, ht6, hr, l3, a1, a2, p1, p2⟩ := checked hc
  obtain ⟨hqc, hsd⟩ := (sizeConsistent_iff (checked hc)).mp hs
  have hps : le32 (toLE32 q.pck.size) = q.pck.pckCertChain.length := by rw [le32_toLE32 r4, p2]
  unfold specParse wire
  -- header, body and size field; the signed data are cut off as one block of `signedDataSize` bytes …
  simp only [Option.bind_eq_bind, List.append_assoc, specHeader_hdrBytes hh, specBody_bodyBytes ht, Option.bind_some,
    next_append (toLE32_len _), le32_toLE32 r1, next_append hsd]
  -- … which is read up to the certification data size; what is left must be exactly that long …
  simp only [Option.bind_some, List.append_assoc, signedBytes, hp.cert, Option.getD_some, next_append l1, next_append l2,
    certBytes, hp.qeCert, next_append (toLE16_len _), next_append (toLE32_len _), le32_toLE32 r2, optGuard_bind_of hqc.symm]
  -- … and is read to the end
  simp only [Option.bind_some, List.append_assoc, qeCertBytes, hp.qeReport, hp.auth, hp.pck, Option.getD_some,
    specReport_reportBytes hr r3, next_append l3, authBytes, next_append (toLE16_len _), le16_toLE16 a1, next_append a2.symm,
    pckBytes, next_append (toLE32_len _), optGuard_bind_of hps]
  obtain ⟨v1, v2, v3, _⟩ := checkHeader_ok_iff.mp hh
  rw [le16_toLE16 (by omega), le16_toLE16 (by omega), le32_toLE32 r4, optGuard_bind_of ⟨v1, v2, v3, ht6, p1⟩]
  exact congrArg some (allPresent_shape hp).symm

end Tdx.Abi
