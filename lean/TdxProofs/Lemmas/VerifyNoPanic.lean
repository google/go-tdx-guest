/- verify.TdxQuote never panics (C10): stage by stage. -/
import TdxProofs.Lemmas.Verify
import TdxProofs.Lemmas.Tcb
import TdxProofs.Lemmas.PckExt

namespace Tdx.Verify
open Tdx.Abi

theorem extractChain_ne_panic (pem : Option PemFacts) : extractChain pem ≠ .panic :=
  (extractChain_ensures pem).ne_panic

theorem signedMessage_ne_panic (q : QuoteV4) : signedMessage q ≠ .panic := by
  unfold signedMessage
  simp [bind_ne_panic_iff]

/-- the three links never crash as long as the hash has SHA-256's output size -/
theorem verifyQuoteLinks_ne_panic (C : Crypto) (hsha : ∀ b, (C.sha256 b).length = 32) (q : QuoteV4) (leaf : Nat) :
    verifyQuoteLinks C q leaf ≠ .panic := by
  unfold verifyQuoteLinks
  refine bind_ne_panic (runChecks_ne_panic _) fun _ _ => ?_
  refine bind_ne_panic (signedMessage_ne_panic q) fun msg _ => ?_
  refine bind_ne_panic (runChecks_ne_panic _) fun _ _ => ?_
  refine bind_ne_panic (enclaveReportToAbiBytes_ne_panic _) fun rep hrep => ?_
  refine bind_ne_panic (runChecks_ne_panic _) fun _ _ => ?_
  -- the report serialised, so its report data are 64 bytes (`checkQeReport`): with a 32-byte hash the padding that
  -- `make` allocates cannot have a negative length
  have hlen := (enclaveReportToAbiBytes_ok hrep).1
  simp only [hsha, hlen]
  split
  · omega
  · exact runChecks_ne_panic _

theorem tdBodyCheck_ne_panic (doc : TcbInfoDoc) (t : TdQuoteBody) (ext : PckExt.PckExtensions) (h2 : 2 ≤ t.teeTcbSvn.length) :
    tdBodyCheck Fixes.all doc t ext ≠ .panic :=
  ((runChecks_decides _).bind fun _ => tcbStatusCheck_decides doc t.teeTcbSvn ext.tcb.pcesvn ext.tcb.comps h2).ne_panic

theorem qeReportCheck_ne_panic (doc : QeIdDoc) (r : EnclaveReport) : qeReportCheck doc r ≠ .panic :=
  ((runChecks_decides _).bind fun _ => qeStatusCheck_decides doc.levels r.isvSvn).ne_panic

theorem tcbStage_ne_panic (q : QuoteV4) (ext : PckExt.PckExtensions) (col : Option Collateral)
    (h2 : 2 ≤ (q.tdQuoteBody.getD default).teeTcbSvn.length) : tcbStage Fixes.all q ext col ≠ .panic := by
  cases col with
  | none => exact ok_ne_panic _
  | some c => exact bind_ne_panic (tdBodyCheck_ne_panic _ _ _ h2) fun _ _ => qeReportCheck_ne_panic _ _

theorem verifyEvidence_ne_panic (C : Crypto) (hsha : ∀ b, (C.sha256 b).length = 32) (w : World) (q : QuoteV4) (o : Opts)
    (T : TimeSet) (ch : Chain) (ext : PckExt.PckExtensions) (col : Option Collateral)
    (h2 : 2 ≤ (q.tdQuoteBody.getD default).teeTcbSvn.length) : verifyEvidence Fixes.all C w q o T ch ext col ≠ .panic := by
  unfold verifyEvidence
  refine bind_ne_panic (runChecks_ne_panic _) fun _ _ => ?_
  refine bind_ne_panic (collateralStage_decides C w o T col).ne_panic fun _ _ => ?_
  refine bind_ne_panic (verifyQuoteLinks_ne_panic C hsha q ch.leaf) fun _ _ => ?_
  exact tcbStage_ne_panic q ext col h2

theorem prepare_ne_panic (w : World) (q : Option QuoteV4) : prepare w q ≠ .panic := by
  unfold prepare
  cases q with
  | none => simp
  | some q' =>
    exact bind_ne_panic (checkQuoteV4_ne_panic _) fun _ _ => bind_ne_panic (extractChain_ne_panic _) fun _ _ =>
      bind_ne_panic (PckExt.pckCertificateExtensions_ne_panic _) fun _ _ => pure_ne_panic _

/-- **verify.TdxQuote never panics**: for every message (absent sub-messages, fields of any length, any number of RTMRs),
    every world (arbitrary chain, collateral, CRL and issuer-chain facts) and every option value. -/
theorem tdxQuote_ne_panic (C : Crypto) (hsha : ∀ b, (C.sha256 b).length = 32) (w : World) (q : Option QuoteV4) (o : Opts) :
    (tdxQuote Fixes.all C w q o).verdict ≠ .panic := by
  rw [tdxQuote_verdict rfl]
  refine bind_ne_panic (prepare_ne_panic w q) fun ⟨q', ch, ext⟩ hp => ?_
  refine bind_ne_panic (fetchStage_spec w o ch ext).2.1 fun col _ => ?_
  exact verifyEvidence_ne_panic C hsha w q' o _ ch ext col (teeTcbSvn_two_le (prepare_ok_iff.mp hp).2.1)

end Tdx.Verify
