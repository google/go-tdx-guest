/- The refinement lemma of the verification pipeline: an accepting call decomposes into the facts of
   every stage, and conversely. The property theorems of C01–C07, C11, C12 about whole calls are projections of this
   (`tdxQuote_ok_iff`), of the fetch statements (`fetchStage_spec`) or of the call as a composition (`tdxQuote_eq`). -/
import TdxModel.Verify
import TdxProofs.Lemmas.AbiCheck

namespace Tdx.Verify
open Tdx.Gen Tdx.Abi

/- `and_assoc` flattens what the rules produce, so a structure that reads a check list declares its fields in the order of
   the list and is filled from the flat conjunction by position. -/
attribute [check_list] List.forall_mem_append List.forall_mem_cons List.not_mem_nil false_imp_iff implies_true and_true
  beq_iff_eq decide_eq_true_eq Bool.not_eq_true' and_assoc

theorem runChecks_decides (cs : List (Bool × String)) : Decides (runChecks cs) (∀ c ∈ cs, c.1 = true) () := by
  induction cs with
  | nil => exact (Decides.pure ()).iff (by simp)
  | cons c rest ih =>
    obtain ⟨b, e⟩ := c
    unfold runChecks
    cases b
    · exact (Decides.fail e).iff (by simp)
    · exact ih.iff (by simp)

theorem runChecks_ok_iff (cs : List (Bool × String)) : runChecks cs = .ok () ↔ ∀ c ∈ cs, c.1 = true :=
  (runChecks_decides cs).ok_iff_unit

theorem runChecks_ne_panic (cs : List (Bool × String)) : runChecks cs ≠ .panic :=
  (runChecks_decides cs).ne_panic

theorem runChecks_bind_ok_iff {β} {cs : List (Bool × String)} {f : Unit → Outcome β} {r : β} :
    (runChecks cs >>= f) = .ok r ↔ (∀ c ∈ cs, c.1 = true) ∧ f () = .ok r := by
  rw [bind_unit_ok_iff, runChecks_ok_iff]

/-- a check list with an optional block -/
theorem forall_mem_ite {α} {c : Prop} [Decidable c] {l₁ l₂ : List α} {P : α → Prop} :
    (∀ x ∈ (if c then l₁ else l₂), P x) ↔ (c → ∀ x ∈ l₁, P x) ∧ (¬c → ∀ x ∈ l₂, P x) := by
  split <;> simp [*]

/-- the revocation block of `verifyPCKCertificationChain` and `verifyResponse`: nothing without `CheckRevocations`, a
    failure without `GetCollateral`, otherwise the checks `l` -/
@[check_list] theorem forall_mem_revocation {cr gc : Bool} {l : List (Bool × String)} {e : String} :
    (∀ x ∈ (if cr then (if gc then l else [(false, e)]) else []), x.1 = true) ↔ (cr = true → gc = true ∧ ∀ x ∈ l, x.1 = true) := by
  cases cr <;> cases gc <;> simp only [↓reduceIte, Bool.false_eq_true, List.forall_mem_cons, List.not_mem_nil, false_imp_iff,
    implies_true, true_imp_iff, false_and, true_and]

/-! ### the fetches

  One statement per fetch function (`obtainBase`, `obtainCrls`, `obtainCollateral`, `fetchStage`) says which URLs it can
  request, that it does not panic, and what a returned value says about the world; the URL theorems of C12, the no-panic
  theorem and the acceptance lemma all read it. -/

theorem getRootCrl_spec (w : World) (dps : List String) :
    (∀ x ∈ (getRootCrl w dps).1, x ∈ dps) ∧
    ∀ crl, (getRootCrl w dps).2 = some crl → ∃ u ∈ dps, w.fetchRootCrl u = some (some crl) := by
  induction dps with
  | nil => exact ⟨nofun, nofun⟩
  | cons u rest ih =>
    unfold getRootCrl
    split
    · exact ⟨fun x hx => List.mem_singleton.mp hx ▸ List.mem_cons_self .., fun crl h => ⟨u, List.mem_cons_self .., by cases h; assumption⟩⟩
    · refine ⟨fun x hx => ?_, fun crl h => ?_⟩
      · exact (List.mem_cons.mp hx).elim (fun e => e ▸ List.mem_cons_self ..) fun hx => List.mem_cons_of_mem _ (ih.1 x hx)
      · obtain ⟨u', hu', h'⟩ := ih.2 crl h
        exact ⟨u', List.mem_cons_of_mem _ hu', h'⟩

/-- a response that was used: fetched, one issuer-chain header value with signer and root, JSON body whose exact
    member exists and decodes; the values that drive the verdict are the decode of that raw member -/
structure ResponseUsed {Doc : Type} (f : FetchF (BodyF Doc)) (signer root : Nat) (doc : Doc) (sig : String) (raw : Bytes) (zero : Bool) : Prop where
  witness : ∃ h b, f = .resp h b ∧ headerToIssuerChain h = .ok (signer, root) ∧ b.structOk = true ∧ b.raw = some raw ∧
    b.rawDoc = some doc ∧ b.signature = sig ∧ b.zero = zero

theorem headerToIssuerChain_ne_panic (h : HdrF) : headerToIssuerChain h ≠ .panic := by
  unfold headerToIssuerChain
  cases h with
  | blocks steps =>
    dsimp only
    rcases steps[0]? with _ | _ | b1
    · exact err_ne_panic _
    · exact err_ne_panic _
    refine ite_ne (err_ne_panic _) (ite_ne (err_ne_panic _) ?_)
    rcases b1.cert with _ | s
    · exact err_ne_panic _
    rcases steps[1]? with _ | _ | b2
    · exact err_ne_panic _
    · exact err_ne_panic _
    refine ite_ne (err_ne_panic _) (ite_ne (err_ne_panic _) ?_)
    rcases b2.cert with _ | r
    · exact err_ne_panic _
    · exact ok_ne_panic _
  | _ => exact err_ne_panic _

theorem bodyValues_ensures {Doc : Type} (b : BodyF Doc) :
    (bodyValues Fixes.all b).Ensures fun v =>
      b.structOk = true ∧ b.raw = some v.2.2.1 ∧ b.rawDoc = some v.1 ∧ b.signature = v.2.1 ∧ b.zero = v.2.2.2 := by
  unfold bodyValues
  refine .ite (fun _ => .fail) fun hs => ?_
  rcases hr : b.raw with _ | raw
  · exact .fail
  refine .ite (fun _ => ?_) fun hf => absurd rfl hf
  rcases hd : b.rawDoc with _ | d
  · exact .fail
  · exact .pure ⟨by simpa using hs, rfl, rfl, rfl, rfl⟩

/-- everything `obtainCollateral` established about the collateral it returned -/
structure Obtained (w : World) (fmspc ca : String) (cr : Bool) (c : Collateral) : Prop where
  tcb : ResponseUsed (w.fetchTcb (tcbInfoURL fmspc)) c.tcbSigner c.tcbRoot c.tcb c.tcbSig c.tcbRaw c.tcbZero
  qe : ResponseUsed (w.fetchQe qeIdentityURL) c.qeSigner c.qeRoot c.qe c.qeSig c.qeRaw c.qeZero
  crls : cr = true → ∃ h cs crt pckCrl rootCrl, w.fetchPckCrl (pckCrlURL ca) = .resp h (some pckCrl) ∧
    headerToIssuerChain h = .ok (cs, crt) ∧ c.pckCrl = some (cs, crt, pckCrl) ∧ c.rootCrl = some rootCrl ∧
    ∃ u ∈ (cert w c.qeRoot).crlDPs, w.fetchRootCrl u = some (some rootCrl)

/- In the next two proofs `repeat' split` walks the cascade once: every branch but the last returned an error, or is
   excluded because a sub-call returned `panic`.  (`ca` is free here: without CRLs `Obtained` says nothing about the CA.) -/
theorem obtainBase_ensures (w : World) (fmspc ca : String) :
    (∀ u ∈ (obtainBase Fixes.all w fmspc).1, u = tcbInfoURL fmspc ∨ u = qeIdentityURL) ∧
    (obtainBase Fixes.all w fmspc).2.Ensures (Obtained w fmspc ca false) := by
  unfold obtainBase
  dsimp only
  repeat' split
  all_goals refine ⟨by simp, ?_⟩
  all_goals first | exact .fail | exact absurd ‹_› (headerToIssuerChain_ne_panic _) | exact absurd ‹_› (bodyValues_ensures _).ne_panic | skip
  -- `a := (_, _, _, _)` lets the expected type fix the response before the hypothesis about its body is looked up
  exact .pure ⟨⟨_, _, ‹w.fetchTcb _ = _›, ‹_›, (bodyValues_ensures _).of_ok (a := (_, _, _, _)) ‹_›⟩,
    ⟨_, _, ‹w.fetchQe _ = _›, ‹_›, (bodyValues_ensures _).of_ok (a := (_, _, _, _)) ‹_›⟩, nofun⟩

theorem obtainCrls_ensures (w : World) (ca : String) (base : Collateral) :
    (∀ u ∈ (obtainCrls w ca base).1, u = pckCrlURL ca ∨ u ∈ (getRootCrl w (cert w base.qeRoot).crlDPs).1) ∧
    (obtainCrls w ca base).2.Ensures fun c =>
      ∃ hd cs crt pckCrl rootCrl, w.fetchPckCrl (pckCrlURL ca) = .resp hd (some pckCrl) ∧
        headerToIssuerChain hd = .ok (cs, crt) ∧ c = { base with pckCrl := some (cs, crt, pckCrl), rootCrl := some rootCrl } ∧
        ∃ u ∈ (cert w base.qeRoot).crlDPs, w.fetchRootCrl u = some (some rootCrl) := by
  unfold obtainCrls
  dsimp only
  repeat' split
  all_goals refine ⟨by simp, ?_⟩
  all_goals first | exact .fail | exact absurd ‹_› (headerToIssuerChain_ne_panic _) | skip
  exact .pure ⟨_, _, _, _, _, ‹_›, ‹_›, rfl, (getRootCrl_spec w _).2 _ ‹_›⟩

theorem obtainCollateral_ok_iff (w : World) (fmspc ca : String) (cr : Bool) (c : Collateral) :
    (obtainCollateral Fixes.all w fmspc ca cr).2 = .ok c ↔
      ∃ base, (obtainBase Fixes.all w fmspc).2 = .ok base ∧
        ((cr = false ∧ c = base) ∨ (cr = true ∧ (obtainCrls w ca base).2 = .ok c)) := by
  unfold obtainCollateral
  cases hb : (obtainBase Fixes.all w fmspc).2 with
  | err e => simp
  | panic => simp
  | ok base =>
    simp only [Outcome.ok.injEq, exists_eq_left']
    cases cr with
    | false => simp [eq_comm]
    | true => simp

theorem obtainCollateral_ensures (w : World) (fmspc ca : String) (cr : Bool) :
    (∀ u ∈ (obtainCollateral Fixes.all w fmspc ca cr).1, u = tcbInfoURL fmspc ∨ u = qeIdentityURL ∨
      (cr = true ∧ (u = pckCrlURL ca ∨ ∃ i, u ∈ (cert w i).crlDPs))) ∧
    (obtainCollateral Fixes.all w fmspc ca cr).2.Ensures (Obtained w fmspc ca cr) := by
  obtain ⟨hu, hb⟩ := obtainBase_ensures w fmspc ca
  unfold obtainCollateral
  cases hbase : (obtainBase Fixes.all w fmspc).2 with
  | err e => exact ⟨fun u h => (hu u h).imp_right .inl, .fail⟩
  | panic => exact absurd hbase hb.ne_panic
  | ok base =>
    have ob := hb.of_ok hbase
    cases cr with
    | false => exact ⟨fun u h => (hu u h).imp_right .inl, .pure ob⟩
    | true =>
      obtain ⟨hc, hcrl⟩ := obtainCrls_ensures w ca base
      refine ⟨fun u h => (List.mem_append.mp h).elim (fun h => (hu u h).imp_right .inl) fun h =>
        .inr (.inr ⟨rfl, (hc u h).imp_right fun h => ⟨_, (getRootCrl_spec w _).1 u h⟩⟩), ?_⟩
      refine hcrl.mono fun c ⟨hd, cs, crt, pckCrl, rootCrl, f1, f2, e, f3⟩ => ?_
      subst e
      exact ⟨ob.tcb, ob.qe, fun _ => ⟨hd, cs, crt, pckCrl, rootCrl, f1, f2, rfl, rfl, f3⟩⟩

/-- the collateral a call works with: none without `GetCollateral`, otherwise what `obtainCollateral` returned -/
def Fetched (w : World) (o : Opts) (ch : Chain) (ext : PckExt.PckExtensions) (col : Option Collateral) : Prop :=
  (o.getCollateral = false ∧ col = none) ∨
  (o.getCollateral = true ∧ ∃ ca c, extractCa (cert w ch.leaf) = .ok ca ∧
      (obtainCollateral Fixes.all w ext.fmspc ca o.checkRevocations).2 = .ok c ∧ col = some c)

theorem extractCa_ensures (leaf : CertF) :
    (extractCa leaf).Ensures fun ca =>
      (leaf.issuerCN = verify_platformIssuer ∧ ca = verify_platformIssuerID) ∨
      (leaf.issuerCN = verify_processorIssuer ∧ ca = verify_processorIssuerID) :=
  .ite (fun h => .pure (.inl ⟨beq_iff_eq.mp h, rfl⟩)) fun _ => .ite (fun h => .pure (.inr ⟨beq_iff_eq.mp h, rfl⟩)) fun _ => .fail

theorem fetchStage_spec (w : World) (o : Opts) (ch : Chain) (ext : PckExt.PckExtensions) :
    (∀ u ∈ (fetchStage Fixes.all w o ch ext).1, o.getCollateral = true ∧
      (u = tcbInfoURL ext.fmspc ∨ u = qeIdentityURL ∨
       (o.checkRevocations = true ∧ ∃ ca, extractCa (cert w ch.leaf) = .ok ca ∧
          (u = pckCrlURL ca ∨ ∃ i, u ∈ (cert w i).crlDPs)))) ∧
    (fetchStage Fixes.all w o ch ext).2 ≠ .panic ∧
    ∀ col, (fetchStage Fixes.all w o ch ext).2 = .ok col ↔ Fetched w o ch ext col := by
  unfold fetchStage Fetched
  cases o.getCollateral with
  | false => exact ⟨nofun, nofun, fun col => by simp [eq_comm]⟩
  | true =>
    cases hca : extractCa (cert w ch.leaf) with
    | err e => exact ⟨nofun, nofun, fun col => by simp⟩
    | panic => exact absurd hca (extractCa_ensures _).ne_panic
    | ok ca =>
      obtain ⟨hu, hob⟩ := obtainCollateral_ensures w ext.fmspc ca o.checkRevocations
      refine ⟨fun u h => ⟨rfl, (hu u h).imp_right (Or.imp_right fun ⟨hcr, h⟩ => ⟨hcr, ca, rfl, h⟩)⟩, ?_⟩
      cases hc : (obtainCollateral Fixes.all w ext.fmspc ca o.checkRevocations).2 with
      | panic => exact absurd hc hob.ne_panic
      | _ => exact ⟨by simp [hc], fun col => by simp [hc, eq_comm]⟩

theorem fetchStage_ok_iff (w : World) (o : Opts) (ch : Chain) (ext : PckExt.PckExtensions) (col : Option Collateral) :
    (fetchStage Fixes.all w o ch ext).2 = .ok col ↔ Fetched w o ch ext col :=
  (fetchStage_spec w o ch ext).2.2 col

/-- the stage facts of `verifyEvidenceV4` -/
structure Evidence (C : Crypto) (w : World) (q : QuoteV4) (o : Opts) (T : TimeSet) (ch : Chain)
    (ext : PckExt.PckExtensions) (col : Option Collateral) : Prop where
  teeType : (q.header.getD default).teeType = abi_TeeTDX
  chain : ∀ c ∈ chainChecks w ch o T col, c.1 = true
  collateral : o.getCollateral = true →
    ∃ c, col = some c ∧ (∀ x ∈ collateralChecks w o T col, x.1 = true) ∧
      (∀ x ∈ tcbInfoChecks C w o T c, x.1 = true) ∧ (∀ x ∈ qeIdentityChecks C w o T c, x.1 = true)
  links : verifyQuoteLinks C q ch.leaf = .ok ()
  tcb : ∀ c, col = some c →
    tdBodyCheck Fixes.all c.tcb (q.tdQuoteBody.getD default) ext = .ok () ∧
    qeReportCheck c.qe (((qeCertData q).getD default).qeReport.getD default) = .ok ()

theorem collateralStage_some {C : Crypto} {w : World} {o : Opts} {T : TimeSet} {c : Collateral} (hg : o.getCollateral = true) :
    collateralStage C w o T (some c) =
      runChecks (collateralChecks w o T (some c) ++ tcbInfoChecks C w o T c ++ qeIdentityChecks C w o T c) := by
  simp [collateralStage, hg]

theorem collateralStage_decides (C : Crypto) (w : World) (o : Opts) (T : TimeSet) (col : Option Collateral) :
    Decides (collateralStage C w o T col)
      (o.getCollateral = true →
        ∃ c, col = some c ∧ (∀ x ∈ collateralChecks w o T col, x.1 = true) ∧
          (∀ x ∈ tcbInfoChecks C w o T c, x.1 = true) ∧ (∀ x ∈ qeIdentityChecks C w o T c, x.1 = true)) () := by
  unfold collateralStage
  cases o.getCollateral with
  | false => exact (Decides.pure ()).iff (by simp only [Bool.false_eq_true, false_imp_iff])
  | true =>
    cases col with
    | none => exact (Decides.fail _).iff (by simp only [true_imp_iff, reduceCtorEq, false_and, exists_false])
    | some c =>
      exact (runChecks_decides _).iff (by simp only [List.forall_mem_append, and_assoc, true_imp_iff, Option.some.injEq, exists_eq_left'])

theorem tcbStage_ok_iff (q : QuoteV4) (ext : PckExt.PckExtensions) (col : Option Collateral) :
    tcbStage Fixes.all q ext col = .ok () ↔
      ∀ c, col = some c →
        tdBodyCheck Fixes.all c.tcb (q.tdQuoteBody.getD default) ext = .ok () ∧
        qeReportCheck c.qe (((qeCertData q).getD default).qeReport.getD default) = .ok () := by
  unfold tcbStage
  cases col with
  | none => simp
  | some c => simp only [bind_unit_ok_iff, Option.some.injEq, forall_eq']

theorem verifyEvidence_ok_iff (C : Crypto) (w : World) (q : QuoteV4) (o : Opts) (T : TimeSet) (ch : Chain)
    (ext : PckExt.PckExtensions) (col : Option Collateral) :
    verifyEvidence Fixes.all C w q o T ch ext col = .ok () ↔ Evidence C w q o T ch ext col := by
  unfold verifyEvidence
  simp only [bind_unit_ok_iff, runChecks_ok_iff, (collateralStage_decides ..).ok_iff_unit, tcbStage_ok_iff, List.forall_mem_cons, beq_iff_eq]
  exact ⟨fun ⟨⟨a, b⟩, c, d, e⟩ => ⟨a, b, c, d, e⟩, fun e => ⟨⟨e.teeType, e.chain⟩, e.collateral, e.links, e.tcb⟩⟩

/-- `extractChainFromQuoteV4` returns a chain only for three CERTIFICATE blocks that parse, the first two followed by more
    bytes, the third by nothing but an optional single NUL; the proof follows the function test by test -/
theorem extractChain_ensures (pem : Option PemFacts) :
    (extractChain pem).Ensures fun ch =>
      ∃ steps b1 b2 b3, pem = some steps ∧ steps[0]? = some (some b1) ∧ steps[1]? = some (some b2) ∧ steps[2]? = some (some b3) ∧
        b1.isCert = true ∧ b2.isCert = true ∧ b3.isCert = true ∧ b1.remLen ≠ 0 ∧ b2.remLen ≠ 0 ∧
        (b3.remLen = 0 ∨ b3.remIsNul = true) ∧
        b1.cert = some ch.leaf ∧ b2.cert = some ch.inter ∧ b3.cert = some ch.root := by
  unfold extractChain
  rcases pem with _ | steps
  · exact .fail
  dsimp only
  rcases h0 : steps[0]? with _ | _ | b1
  · exact .fail
  · exact .fail
  refine .ite (fun _ => .fail) fun g1 => ?_
  rcases c1 : b1.cert with _ | leaf
  · exact .fail
  rcases h1 : steps[1]? with _ | _ | b2
  · exact .fail
  · exact .fail
  refine .ite (fun _ => .fail) fun g2 => ?_
  rcases c2 : b2.cert with _ | inter
  · exact .fail
  rcases h2 : steps[2]? with _ | _ | b3
  · exact .fail
  · exact .fail
  refine .ite (fun _ => .fail) fun g3 => .ite (fun _ => .fail) fun g4 => ?_
  rcases c3 : b3.cert with _ | root
  · exact .fail
  simp only [Bool.or_eq_true, beq_iff_eq, Bool.not_eq_true', not_or, Bool.not_eq_false, Bool.and_eq_true, bne_iff_ne, not_and]
    at g1 g2 g3 g4
  exact .pure ⟨steps, b1, b2, b3, rfl, h0, h1, h2, g1.2, g2.2, g3, g1.1, g2.1, Decidable.or_iff_not_imp_left.mpr g4, c1, c2, c3⟩

/-- `getTrustedRoots`: no pool when nothing is configured, otherwise the certificates of the bundles, none of which is
    unreadable or empty -/
theorem rotToPool_ensures (files : List Bundle) (inline : List (List Nat)) :
    (rotToPool files inline).Ensures fun p =>
      (p = none ∧ files = [] ∧ inline = []) ∨
      (p = some ((files.filterMap id).flatten ++ inline.flatten) ∧ none ∉ files ∧ some [] ∉ files ∧ [] ∉ inline) := by
  unfold rotToPool
  refine .ite (fun h0 => .pure (.inl ⟨rfl, by simpa using h0⟩)) fun _ => .ite (fun _ => .fail) fun h1 => .ite (fun _ => .fail) fun h2 => ?_
  exact .pure (.inr ⟨rfl, fun h => h1 (List.any_eq_true.mpr ⟨none, h, rfl⟩),
    fun h => h1 (List.any_eq_true.mpr ⟨some [], h, rfl⟩), fun h => h2 (List.any_eq_true.mpr ⟨[], h, rfl⟩)⟩)

/-- what the quote signature covers: header ‖ body as re-serialised, the first 632 bytes of the wire form -/
theorem signedMessage_eq {q : QuoteV4} (hc : checkQuoteV4 (some q) = .ok ()) : signedMessage q = .ok ((wire q).take 632) := by
  obtain ⟨hh, ht, _⟩ := checkQuoteV4_ok_iff.mp hc
  unfold signedMessage
  rw [bind_eq ((headerToAbiBytes_decides _).ok hh), bind_eq ((tdQuoteBodyToAbiBytes_decides _).ok ht), (take_wire hc).1]
  rfl

/-! ### the call: what happens before the options are looked at, and after -/

/-- the structural check demands a 16-byte TEE TCB SVN, so the two bytes the TCB comparison indexes are there -/
theorem teeTcbSvn_two_le {q : QuoteV4} (hc : checkQuoteV4 (some q) = .ok ()) : 2 ≤ q.body.teeTcbSvn.length := by
  rw [(checkTDQuoteBody_ok_iff.mp (checked hc).body).1]
  decide

def prepare (w : World) (q : Option QuoteV4) : Outcome (QuoteV4 × Chain × PckExt.PckExtensions) :=
  match q with
  | none => .err "quote nil"
  | some q' => checkQuoteV4 (some q') >>= fun _ => extractChain w.chainPem >>= fun ch =>
      PckExt.pckCertificateExtensions (cert w ch.leaf).pck >>= fun ext => pure (q', ch, ext)

def finish (fx : Fixes) (C : Crypto) (w : World) (o : Opts) (q : QuoteV4) (ch : Chain) (ext : PckExt.PckExtensions) : Result :=
  { verdict := (fetchStage fx w o ch ext).2 >>= verifyEvidence fx C w q o (o.now.getD (defaultTimeSet w.clock)) ch ext
    urls := (fetchStage fx w o ch ext).1
    nowAfter := match (fetchStage fx w o ch ext).2 with
      | .ok _ => if fx.f9 then o.now else some (o.now.getD (defaultTimeSet w.clock))
      | _ => o.now }

/-- `tdxQuote` spells its stages out as nested matches in order to thread the URL list; this is the same call as a
    composition (behind the dereference of finding F2), and every analysis of `tdxQuote` goes through it -/
theorem tdxQuote_eq_fx (fx : Fixes) (C : Crypto) (w : World) (q : Option QuoteV4) (o : Opts) :
    tdxQuote fx C w q o =
      if !fx.f2 && (q.bind (·.header)).isNone then { verdict := .panic, urls := [], nowAfter := o.now } else
      match prepare w q with
      | .ok p => finish fx C w o p.1 p.2.1 p.2.2
      | .err e => { verdict := .err e, urls := [], nowAfter := o.now }
      | .panic => { verdict := .panic, urls := [], nowAfter := o.now } := by
  unfold tdxQuote prepare finish
  refine ite_congr rfl (fun _ => rfl) fun _ => ?_
  cases q with
  | none => rfl
  | some q' =>
    simp only
    cases checkQuoteV4 (some q') <;> try rfl
    simp only [bind, pure]
    cases extractChain w.chainPem <;> try rfl
    simp only
    cases PckExt.pckCertificateExtensions (cert w _).pck <;> try rfl
    simp only
    cases (fetchStage fx w o _ _).2 <;> rfl

theorem tdxQuote_eq {fx : Fixes} (hf2 : fx.f2 = true) (C : Crypto) (w : World) (q : Option QuoteV4) (o : Opts) :
    tdxQuote fx C w q o = match prepare w q with
      | .ok p => finish fx C w o p.1 p.2.1 p.2.2
      | .err e => { verdict := .err e, urls := [], nowAfter := o.now }
      | .panic => { verdict := .panic, urls := [], nowAfter := o.now } := by
  rw [tdxQuote_eq_fx, hf2]
  rfl

theorem tdxQuote_verdict {fx : Fixes} (hf2 : fx.f2 = true) (C : Crypto) (w : World) (q : Option QuoteV4) (o : Opts) :
    (tdxQuote fx C w q o).verdict = prepare w q >>= fun p => (finish fx C w o p.1 p.2.1 p.2.2).verdict := by
  rw [tdxQuote_eq hf2]
  cases prepare w q <;> rfl

theorem prepare_ok_iff {w : World} {q : Option QuoteV4} {q' : QuoteV4} {ch : Chain} {ext : PckExt.PckExtensions} :
    prepare w q = .ok (q', ch, ext) ↔ q = some q' ∧ checkQuoteV4 (some q') = .ok () ∧ extractChain w.chainPem = .ok ch ∧
      PckExt.pckCertificateExtensions (cert w ch.leaf).pck = .ok ext := by
  unfold prepare
  cases q with
  | none => simp
  | some q'' =>
    simp only [bind_ok_iff, pure, Outcome.ok.injEq, Prod.mk.injEq, Option.some.injEq]
    constructor
    · rintro ⟨_, h1, ch', h2, ext', h3, rfl, rfl, rfl⟩; exact ⟨rfl, h1, h2, h3⟩
    · rintro ⟨rfl, h1, h2, h3⟩; exact ⟨(), h1, ch, h2, ext, h3, rfl, rfl, rfl⟩

theorem tdxQuote_of_prepared {fx : Fixes} (hf2 : fx.f2 = true) (C : Crypto) {w : World} {q : QuoteV4} (o : Opts) {ch : Chain}
    {ext : PckExt.PckExtensions} (hc : checkQuoteV4 (some q) = .ok ()) (hch : extractChain w.chainPem = .ok ch)
    (hext : PckExt.pckCertificateExtensions (cert w ch.leaf).pck = .ok ext) :
    tdxQuote fx C w (some q) o = finish fx C w o q ch ext := by
  rw [tdxQuote_eq hf2, prepare_ok_iff.mpr ⟨rfl, hc, hch, hext⟩]

theorem finish_of_fetched {fx : Fixes} {C : Crypto} {w : World} {o : Opts} {q : QuoteV4} {ch : Chain} {ext : PckExt.PckExtensions}
    {urls : List String} {col : Option Collateral} (hf : fetchStage fx w o ch ext = (urls, .ok col)) :
    (finish fx C w o q ch ext).verdict = verifyEvidence fx C w q o (o.now.getD (defaultTimeSet w.clock)) ch ext col ∧
    (finish fx C w o q ch ext).urls = urls := by
  simp only [finish, hf, and_true]
  rfl

/-- everything an accepting call establishes -/
structure Accepted (C : Crypto) (w : World) (q : Option QuoteV4) (o : Opts) : Prop where
  witness : ∃ (q' : QuoteV4) (ch : Chain) (ext : PckExt.PckExtensions) (col : Option Collateral),
    q = some q' ∧ checkQuoteV4 (some q') = .ok () ∧ extractChain w.chainPem = .ok ch ∧
    PckExt.pckCertificateExtensions (cert w ch.leaf).pck = .ok ext ∧ Fetched w o ch ext col ∧
    Evidence C w q' o (o.now.getD (defaultTimeSet w.clock)) ch ext col

theorem tdxQuote_ok_iff (C : Crypto) (w : World) (q : Option QuoteV4) (o : Opts) :
    (tdxQuote Fixes.all C w q o).verdict = .ok () ↔ Accepted C w q o := by
  rw [tdxQuote_verdict rfl]
  simp only [finish, bind_ok_iff, Prod.exists, prepare_ok_iff, fetchStage_ok_iff, verifyEvidence_ok_iff]
  constructor
  · rintro ⟨q', ch, ext, ⟨h1, h2, h3, h4⟩, col, hf, hev⟩; exact ⟨q', ch, ext, col, h1, h2, h3, h4, hf, hev⟩
  · rintro ⟨q', ch, ext, col, h1, h2, h3, h4, hf, hev⟩; exact ⟨q', ch, ext, ⟨h1, h2, h3, h4⟩, col, hf, hev⟩

/-! ### reading the check lists -/

/-- `validateCertificate(cert, parent, phrase)` succeeded -/
structure CertOk (c p : CertF) (phrase : String) : Prop where
  version : c.version = 3
  sigAlg : c.sigAlgOk = true
  pkAlg : c.pkAlgOk = true
  curve : c.curveOk = true
  name : c.subjectCN = phrase
  issuer : c.issuer = p.subject
  signed : sigFrom c p = true

theorem validateCertificate_iff (c p : CertF) (phrase : String) :
    (∀ x ∈ validateCertificate c p phrase, x.1 = true) ↔ CertOk c p phrase := by
  unfold validateCertificate
  simp only [check_list]
  constructor
  · rintro ⟨a, b, c', d, e, f, g⟩
    exact ⟨a, b, c', d, e, f, g⟩
  · rintro ⟨a, b, c', d, e, f, g⟩
    exact ⟨a, b, c', d, e, f, g⟩

/-- `validateCRL(crl, cert)` succeeded (key identity 0 stands for "no key": nothing is signed by it) -/
structure CrlOk (crl : CrlF) (c : CertF) : Prop where
  issuer : crl.issuer = c.subject
  signed : c.canSignCrl = true ∧ crl.signedBy = c.keyId ∧ c.keyId ≠ 0

theorem validateCRL_iff (crl : CrlF) (c : CertF) : (∀ x ∈ validateCRL crl c, x.1 = true) ↔ CrlOk crl c := by
  unfold validateCRL
  simp only [check_list, Bool.and_eq_true, bne_iff_ne]
  constructor
  · rintro ⟨a, b⟩
    exact ⟨a, b⟩
  · rintro ⟨a, b⟩
    exact ⟨a, b⟩

/-- the revocation part of `verifyPCKCertificationChain` -/
structure ChainRevocationOk (w : World) (ch : Chain) (col : Option Collateral) : Prop where
  witness : ∃ c rootCrl cs crt pckCrl, col = some c ∧ c.rootCrl = some rootCrl ∧ c.pckCrl = some (cs, crt, pckCrl) ∧
    CrlOk rootCrl (cert w ch.root) ∧ CrlOk pckCrl (cert w ch.inter) ∧ pckCrl.issuer = (cert w ch.leaf).issuer ∧
    (cert w ch.inter).serial ∉ rootCrl.revoked ∧ (cert w ch.leaf).serial ∉ pckCrl.revoked

/-- `verifyPCKCertificationChain` succeeded -/
structure ChainOk (w : World) (ch : Chain) (o : Opts) (T : TimeSet) (col : Option Collateral) : Prop where
  root : CertOk (cert w ch.root) (cert w ch.root) verify_rootCertPhrase
  inter : CertOk (cert w ch.inter) (cert w ch.root) verify_intermediateCertPhrase
  leaf : CertOk (cert w ch.leaf) (cert w ch.inter) verify_pckCertPhrase
  anchored : pathValid w (effectiveRoots w) (some ch.inter) ch.leaf T.pckCertChain = true
  revocation : o.checkRevocations = true → o.getCollateral = true ∧ ChainRevocationOk w ch col
  rootInDate : T.pckCertChain ≤ (cert w ch.root).notAfter
  interInDate : T.pckCertChain ≤ (cert w ch.inter).notAfter
  leafInDate : T.pckCertChain ≤ (cert w ch.leaf).notAfter

theorem chainChecks_iff {w : World} {ch : Chain} {o : Opts} {T : TimeSet} {col : Option Collateral} :
    (∀ x ∈ chainChecks w ch o T col, x.1 = true) ↔ ChainOk w ch o T col := by
  -- The model's inline `match` is restated (here and in the two proofs like this one below) and the reading is applied,
  -- not rewritten with: a `match` written here has a matcher constant of its own, equal to the model's only by unfolding.
  have hrev : (∀ x ∈ (match col.bind (·.rootCrl), col.bind (·.pckCrl) with
      | some rootCrl, some (_, _, pckCrl) =>
        validateCRL rootCrl (cert w ch.root) ++ validateCRL pckCrl (cert w ch.inter) ++
        [(pckCrl.issuer == (cert w ch.leaf).issuer, "pck crl issuer vs leaf issuer"),
         (!rootCrl.revoked.contains (cert w ch.inter).serial, "intermediate revoked"),
         (!pckCrl.revoked.contains (cert w ch.leaf).serial, "leaf revoked")]
      | _, _ => [(false, "crl missing")]), x.1 = true) ↔ ChainRevocationOk w ch col := by
    refine Iff.trans ?_ ⟨fun h => ⟨h⟩, fun h => h.witness⟩
    rcases col with _ | c
    · simp
    · simp only [Option.bind_some, Option.some.injEq, exists_and_left, exists_eq_left']
      rcases c.rootCrl with _ | rootCrl
      · simp
      · rcases c.pckCrl with _ | ⟨cs, crt, pckCrl⟩
        · simp
        · simp only [check_list, validateCRL_iff, List.contains_eq_mem, decide_eq_false_iff_not, Option.some.injEq, Prod.mk.injEq,
            exists_and_left, exists_eq_left']
  unfold chainChecks
  simp only [check_list, validateCertificate_iff]
  constructor
  · rintro ⟨a, b, c, d, r, e, f, g⟩
    exact ⟨a, b, c, d, fun h => (r h).imp_right hrev.mp, e, f, g⟩
  · rintro ⟨a, b, c, d, r, e, f, g⟩
    exact ⟨a, b, c, d, fun h => (r h).imp_right hrev.mpr, e, f, g⟩

theorem chainChecks_all (w : World) (ch : Chain) (o : Opts) (T : TimeSet) (col : Option Collateral)
    (h : ∀ x ∈ chainChecks w ch o T col, x.1 = true) : ChainOk w ch o T col :=
  chainChecks_iff.mp h

theorem inWindow_iff (c : CertF) (t : Int) : inWindow c t = true ↔ c.notBefore ≤ t ∧ t ≤ c.notAfter := by
  unfold inWindow; simp

/-- `parent` certifies `child`: issuer name, signature, and the parent may sign certificates -/
def Certifies (p c : CertF) : Prop := c.issuer = p.subject ∧ sigFrom c p = true

/-- what `x509.Certificate.Verify` established -/
inductive PathOk (w : World) (roots : List Nat) (inter : Option Nat) (c : Nat) (t : Int) : Prop where
  | isRoot (h : c ∈ roots)
  | direct (r : Nat) (hr : r ∈ roots) (hc : Certifies (cert w r) (cert w c)) (hw : inWindow (cert w r) t = true)
  | viaInter (i : Nat) (hi : inter = some i) (hne : i ≠ c) (hc : Certifies (cert w i) (cert w c)) (hwi : inWindow (cert w i) t = true)
      (top : i ∈ roots ∨ ∃ r ∈ roots, Certifies (cert w r) (cert w i) ∧ inWindow (cert w r) t = true)

theorem pathOk_iff (w : World) (roots : List Nat) (inter : Option Nat) (c : Nat) (t : Int) :
    PathOk w roots inter c t ↔ c ∈ roots ∨
      (∃ r ∈ roots, Certifies (cert w r) (cert w c) ∧ inWindow (cert w r) t = true) ∨
      ∃ i, inter = some i ∧ i ≠ c ∧ Certifies (cert w i) (cert w c) ∧ inWindow (cert w i) t = true ∧
        (i ∈ roots ∨ ∃ r ∈ roots, Certifies (cert w r) (cert w i) ∧ inWindow (cert w r) t = true) := by
  constructor
  · rintro (h | ⟨r, hr, hc, hw⟩ | ⟨i, hi, hne, hc, hwi, top⟩)
    · exact .inl h
    · exact .inr (.inl ⟨r, hr, hc, hw⟩)
    · exact .inr (.inr ⟨i, hi, hne, hc, hwi, top⟩)
  · rintro (h | ⟨r, hr, hc, hw⟩ | ⟨i, hi, hne, hc, hwi, top⟩)
    · exact .isRoot h
    · exact .direct r hr hc hw
    · exact .viaInter i hi hne hc hwi top

theorem pathValid_iff (w : World) (roots : List Nat) (inter : Option Nat) (c : Nat) (t : Int) :
    pathValid w roots inter c t = true ↔ inWindow (cert w c) t = true ∧ PathOk w roots inter c t := by
  unfold pathValid
  rw [pathOk_iff]
  cases inter <;>
  simp only [Certifies, Bool.and_eq_true, Bool.or_eq_true, List.contains_eq_mem, decide_eq_true_eq, List.any_eq_true, beq_iff_eq,
    bne_iff_ne, and_assoc, or_assoc, Option.some.injEq, exists_eq_left', reduceCtorEq, false_and, exists_false, or_false,
    Bool.false_eq_true]

/-! ### reading `verifyResponse`, `verifyTCBinfo`, `verifyQeIdentity`, `verifyCollateral` -/

structure ResponseOk (C : Crypto) (w : World) (o : Opts) (rootI signerI : Nat) (raw : Bytes) (sigHex : String)
    (rootCrl : Option CrlF) (t : Int) : Prop where
  root : CertOk (cert w rootI) (cert w rootI) verify_rootCertPhrase
  signer : CertOk (cert w signerI) (cert w rootI) verify_tcbSigningPhrase
  anchored : pathValid w (effectiveRoots w) none signerI t = true
  signature : ∃ sig, isHex128 sigHex = some sig ∧ C.verifyCert signerI raw sig = true
  revocation : o.checkRevocations = true → o.getCollateral = true ∧
    ∃ crl, rootCrl = some crl ∧ CrlOk crl (cert w rootI) ∧ (cert w signerI).serial ∉ crl.revoked

theorem responseChecks_iff (C : Crypto) (w : World) (o : Opts) (rootI signerI : Nat) (raw : Bytes) (sigHex : String)
    (rootCrl : Option CrlF) (t : Int) :
    (∀ x ∈ responseChecks C w o rootI signerI raw sigHex rootCrl t, x.1 = true) ↔
      ResponseOk C w o rootI signerI raw sigHex rootCrl t := by
  have hsig : ((unhex sigHex).isSome = true ∧ (isHex128 sigHex).isSome = true ∧
        C.verifyCert signerI raw ((isHex128 sigHex).getD []) = true) ↔
      ∃ sig, isHex128 sigHex = some sig ∧ C.verifyCert signerI raw sig = true := by
    unfold isHex128
    cases unhex sigHex with
    | none => simp
    | some b => by_cases hb : b.length = abi_signatureSize <;> simp [hb]
  have hrev : (∀ x ∈ (match rootCrl with
      | some crl => validateCRL crl (cert w rootI) ++ [(!crl.revoked.contains (cert w signerI).serial, "signer revoked")]
      | none => [(false, "root crl missing")] : List (Bool × String)), x.1 = true) ↔
      ∃ crl, rootCrl = some crl ∧ CrlOk crl (cert w rootI) ∧ (cert w signerI).serial ∉ crl.revoked := by
    cases rootCrl with
    | none => simp
    | some crl =>
      simp only [check_list, validateCRL_iff, List.contains_eq_mem, decide_eq_false_iff_not, Option.some.injEq, exists_eq_left']
  unfold responseChecks
  simp only [check_list, validateCertificate_iff, hsig]
  constructor
  · rintro ⟨a, b, c, s, r⟩
    exact ⟨a, b, c, s, fun h => (r h).imp_right hrev.mp⟩
  · rintro ⟨a, b, c, s, r⟩
    exact ⟨a, b, c, s, fun h => (r h).imp_right hrev.mpr⟩

structure TcbInfoOk (C : Crypto) (w : World) (o : Opts) (T : TimeSet) (c : Collateral) : Prop where
  id : c.tcb.id = verify_tcbInfoID
  version : c.tcb.version = verify_tcbInfoVersion
  levels : c.tcb.levels ≠ []
  response : ResponseOk C w o c.tcbRoot c.tcbSigner c.tcbRaw c.tcbSig c.rootCrl T.tcbInfo

theorem tcbInfoChecks_iff {C : Crypto} {w : World} {o : Opts} {T : TimeSet} {c : Collateral} :
    (∀ x ∈ tcbInfoChecks C w o T c, x.1 = true) ↔ TcbInfoOk C w o T c := by
  unfold tcbInfoChecks
  simp only [check_list, responseChecks_iff, List.isEmpty_eq_false_iff]
  constructor
  · rintro ⟨a, b, c, d⟩
    exact ⟨a, b, c, d⟩
  · rintro ⟨a, b, c, d⟩
    exact ⟨a, b, c, d⟩

structure QeIdentityOk (C : Crypto) (w : World) (o : Opts) (T : TimeSet) (c : Collateral) : Prop where
  id : c.qe.id = verify_qeIdentityID
  version : c.qe.version = verify_qeIdentityVersion
  levels : c.qe.levels ≠ []
  response : ResponseOk C w o c.qeRoot c.qeSigner c.qeRaw c.qeSig c.rootCrl T.qeIdentity

theorem qeIdentityChecks_iff {C : Crypto} {w : World} {o : Opts} {T : TimeSet} {c : Collateral} :
    (∀ x ∈ qeIdentityChecks C w o T c, x.1 = true) ↔ QeIdentityOk C w o T c := by
  unfold qeIdentityChecks
  simp only [check_list, responseChecks_iff, List.isEmpty_eq_false_iff]
  constructor
  · rintro ⟨a, b, c, d⟩
    exact ⟨a, b, c, d⟩
  · rintro ⟨a, b, c, d⟩
    exact ⟨a, b, c, d⟩

/-- `verifyCollateral` (presence) and `checkCollateralExpiration` succeeded -/
structure CollateralInDate (w : World) (o : Opts) (T : TimeSet) (c : Collateral) : Prop where
  tcb : T.tcbInfo ≤ c.tcb.nextUpdate
  qe : T.qeIdentity ≤ c.qe.nextUpdate
  tcbSigner : T.tcbInfo ≤ (cert w c.tcbSigner).notAfter
  tcbRoot : T.tcbInfo ≤ (cert w c.tcbRoot).notAfter
  qeRoot : T.qeIdentity ≤ (cert w c.qeRoot).notAfter
  qeSigner : T.qeIdentity ≤ (cert w c.qeSigner).notAfter
  crls : o.checkRevocations = true → ∃ rootCrl cs crt pckCrl, c.rootCrl = some rootCrl ∧ c.pckCrl = some (cs, crt, pckCrl) ∧
    T.rootCaCrl ≤ rootCrl.nextUpdate ∧ T.pckCrl ≤ pckCrl.nextUpdate ∧
    T.pckCrl ≤ (cert w cs).notAfter ∧ T.pckCrl ≤ (cert w crt).notAfter

theorem collateralChecks_iff {w : World} {o : Opts} {T : TimeSet} {c : Collateral} :
    (∀ x ∈ collateralChecks w o T (some c), x.1 = true) ↔
      (c.tcbZero = false ∧ c.qeZero = false) ∧ CollateralInDate w o T c := by
  have hcrl : ((c.pckCrl.isSome = true ∧ c.rootCrl.isSome = true) ∧ ∀ x ∈ (match c.rootCrl, c.pckCrl with
      | some rootCrl, some (cs, crt, pckCrl) =>
        [(decide (T.rootCaCrl ≤ rootCrl.nextUpdate), "root crl expired"),
         (decide (T.pckCrl ≤ pckCrl.nextUpdate), "pck crl expired"),
         (decide (T.pckCrl ≤ (cert w cs).notAfter), "pck crl signer expired"),
         (decide (T.pckCrl ≤ (cert w crt).notAfter), "pck crl root expired")]
      | _, _ => [] : List (Bool × String)), x.1 = true) ↔
      ∃ rootCrl cs crt pckCrl, c.rootCrl = some rootCrl ∧ c.pckCrl = some (cs, crt, pckCrl) ∧
        T.rootCaCrl ≤ rootCrl.nextUpdate ∧ T.pckCrl ≤ pckCrl.nextUpdate ∧
        T.pckCrl ≤ (cert w cs).notAfter ∧ T.pckCrl ≤ (cert w crt).notAfter := by
    rcases c.rootCrl with _ | rootCrl
    · simp
    · rcases c.pckCrl with _ | ⟨cs, crt, pckCrl⟩
      · simp
      · simp only [check_list, Option.isSome_some, true_and, Option.some.injEq, Prod.mk.injEq, exists_and_left,
          exists_eq_left']
  unfold collateralChecks
  simp only [check_list, forall_mem_ite]
  constructor
  · rintro ⟨z1, z2, p, t1, t2, t3, t4, t5, t6, r⟩
    exact ⟨z1, z2, t1, t2, t3, t4, t5, t6, fun h => hcrl.mp ⟨p h, r h⟩⟩
  · rintro ⟨z1, z2, t1, t2, t3, t4, t5, t6, r⟩
    exact ⟨z1, z2, fun h => (hcrl.mpr (r h)).1, t1, t2, t3, t4, t5, t6, fun h => (hcrl.mpr (r h)).2⟩

theorem collateralChecks_all (w : World) (o : Opts) (T : TimeSet) (c : Collateral)
    (h : ∀ x ∈ collateralChecks w o T (some c), x.1 = true) : CollateralInDate w o T c :=
  (collateralChecks_iff.mp h).2

theorem Evidence.collateralOk {C : Crypto} {w : World} {q : QuoteV4} {o : Opts} {T : TimeSet} {ch : Chain}
    {ext : PckExt.PckExtensions} {col : Option Collateral} (hev : Evidence C w q o T ch ext col) (hf : Fetched w o ch ext col)
    (hg : o.getCollateral = true) :
    ∃ ca c, col = some c ∧ extractCa (cert w ch.leaf) = .ok ca ∧
      (obtainCollateral Fixes.all w ext.fmspc ca o.checkRevocations).2 = .ok c ∧
      (c.tcbZero = false ∧ c.qeZero = false) ∧ CollateralInDate w o T c ∧ TcbInfoOk C w o T c ∧ QeIdentityOk C w o T c := by
  obtain ⟨c, rfl, hcc, ht, hq⟩ := hev.collateral hg
  rcases hf with ⟨hg', _⟩ | ⟨_, ca, c', hca, hob, hc'⟩
  · rw [hg] at hg'; cases hg'
  · cases hc'
    obtain ⟨z, d⟩ := collateralChecks_iff.mp hcc
    exact ⟨ca, c, rfl, hca, hob, z, d, tcbInfoChecks_iff.mp ht, qeIdentityChecks_iff.mp hq⟩

theorem verifyEvidence_congr_world {fx : Fixes} (C : Crypto) {w w' : World} (hc : w'.certs = w.certs) (hp : w'.pool = w.pool)
    (he : w'.embeddedRoot = w.embeddedRoot) : verifyEvidence fx C w' = verifyEvidence fx C w := by
  -- `verifyEvidence` reads the world only through `cert` and `effectiveRoots`: with the three fields substituted both
  -- sides unfold to the same term
  obtain ⟨_, _, _, _, _, _, _, _, _⟩ := w'
  cases hc; cases hp; cases he
  rfl

theorem obtainCrls_congr_world {w w' : World} (hc : w'.certs = w.certs) (hp : w'.fetchPckCrl = w.fetchPckCrl)
    (hr : w'.fetchRootCrl = w.fetchRootCrl) : obtainCrls w' = obtainCrls w := by
  have hg : getRootCrl w' = getRootCrl w := by
    funext dps
    induction dps with
    | nil => rfl
    | cons u rest ih => unfold getRootCrl; rw [hr, ih]
  unfold obtainCrls cert
  simp only [hc, hp, hg]

/-- **More checking never accepts more**, in general: a call accepted under `o` is accepted under every `o'` that judges at the
    same times, does not check revocations and fetches collateral only if `o` did.  Of everything acceptance establishes
    only the revocation clauses mention `checkRevocations`, and those are void for `o'`. -/
theorem accept_weaker (C : Crypto) (w : World) (q : Option QuoteV4) (o : Opts) {o' : Opts} (hnow : o'.now = o.now)
    (hcr : o'.checkRevocations = false) (hg : o'.getCollateral = true → o.getCollateral = true)
    (h : (tdxQuote Fixes.all C w q o).verdict = .ok ()) : (tdxQuote Fixes.all C w q o').verdict = .ok () := by
  obtain ⟨q', ch, ext, col, rfl, hc, hch, hext, hf, hev⟩ := ((tdxQuote_ok_iff C w q o).mp h).witness
  have void {P : Prop} (h' : o'.checkRevocations = true) : P := by rw [hcr] at h'; cases h'
  have hchain (col' : Option Collateral) : ∀ x ∈ chainChecks w ch o' (o.now.getD (defaultTimeSet w.clock)) col', x.1 = true :=
    have k := chainChecks_all _ _ _ _ _ hev.chain
    chainChecks_iff.mpr ⟨k.root, k.inter, k.leaf, k.anchored, void, k.rootInDate, k.interInDate, k.leafInDate⟩
  rw [tdxQuote_ok_iff]
  cases hg' : o'.getCollateral with
  | false =>
    refine ⟨q', ch, ext, none, rfl, hc, hch, hext, Or.inl ⟨hg', rfl⟩, ?_⟩
    rw [hnow]
    exact ⟨hev.teeType, hchain none, fun hh => (by rw [hg'] at hh; cases hh), hev.links, fun c hc' => by cases hc'⟩
  | true =>
    obtain ⟨ca, c, rfl, hca, hob, z, d, t, qq⟩ := hev.collateralOk hf (hg hg')
    -- what `o'` fetches is the first half of what `o` fetched: the same collateral without the two CRLs
    obtain ⟨base, hb, hcase⟩ := (obtainCollateral_ok_iff w ext.fmspc ca _ c).mp hob
    obtain ⟨p, r, rfl⟩ : ∃ p r, c = { base with pckCrl := p, rootCrl := r } := by
      rcases hcase with ⟨_, rfl⟩ | ⟨_, hcrl⟩
      · exact ⟨_, _, rfl⟩
      · obtain ⟨_, _, _, _, _, _, _, rfl, _⟩ := (obtainCrls_ensures w ca base).2.of_ok hcrl
        exact ⟨_, _, rfl⟩
    have hresp {rootI signerI : Nat} {raw : Bytes} {sig : String} {crl crl' : Option CrlF} {tm : Int}
        (k : ResponseOk C w o rootI signerI raw sig crl tm) : ResponseOk C w o' rootI signerI raw sig crl' tm :=
      ⟨k.root, k.signer, k.anchored, k.signature, void⟩
    refine ⟨q', ch, ext, some base, rfl, hc, hch, hext,
      Or.inr ⟨hg', ca, base, hca, (obtainCollateral_ok_iff w ext.fmspc ca _ base).mpr ⟨base, hb, Or.inl ⟨hcr, rfl⟩⟩, rfl⟩, ?_⟩
    rw [hnow]
    exact ⟨hev.teeType, hchain _, fun _ => ⟨base, rfl,
      collateralChecks_iff.mpr ⟨z, d.tcb, d.qe, d.tcbSigner, d.tcbRoot, d.qeRoot, d.qeSigner, void⟩,
      tcbInfoChecks_iff.mpr ⟨t.id, t.version, t.levels, hresp t.response⟩,
      qeIdentityChecks_iff.mpr ⟨qq.id, qq.version, qq.levels, hresp qq.response⟩⟩, hev.links,
      fun c' hc' => by cases hc'; exact hev.tcb { base with pckCrl := p, rootCrl := r } rfl⟩

end Tdx.Verify
