/-
  The retry loop `Tdx.Retry.run` (C20): the select of one iteration as one rule (`step_eq`), the
  four ways a run can go as a relation between where it starts and its trace (`Runs`, `run_runs`),
  and the facts about such traces, each by induction on `Runs`, from which the theorems of C20 are
  read off: which calls a run made and what its result says about them
  (`run_shape`); the waits in closed form (`run_waits_exact`); when every wait is at least some
  `m > 0`, that no call starts after the deadline (`run_terminates`, `run_timeout_le`); and, when
  every wait is 0, the run that makes call after call at the same instant (`run_spin`, finding F13).
-/
import TdxModel.Retry

namespace Tdx.Retry

theorem nextDelay_eq (c : Cfg) (d : Int) : nextDelay c d = min (d + d) c.maxDelay := by
  unfold nextDelay
  simp only
  split <;> omega

/-- the wait that follows a failed call made with `delay` -/
def waitAfter (c : Cfg) (delay : Int) : Int := timerWait (nextDelay c delay)

theorem timerWait_eq (d : Int) : timerWait d = max d 0 := by
  unfold timerWait
  split <;> omega

theorem waitAfter_eq (c : Cfg) (d : Int) : waitAfter c d = max (min (d + d) c.maxDelay) 0 := by
  rw [waitAfter, timerWait_eq, nextDelay_eq]

theorem waitAfter_nonneg (c : Cfg) (d : Int) : 0 ≤ waitAfter c d := by
  rw [waitAfter_eq]; omega

/-- The select in one rule.  Seen from the select after a failed call that returned at `t`, the
    context is done at `max t Timeout` and the timer fires at `t + w`; the earlier one is taken and
    `tieK` decides a draw. -/
theorem step_eq {ρ : Type} (c : Cfg) (call : Call ρ) (tieK : Bool) (now delay : Int) (k : Nat) :
    step c call tieK now delay k =
      match call.resp with
      | some r => .done (.success k r (now + call.dur))
      | none =>
        if now + call.dur + waitAfter c delay < max (now + call.dur) c.timeout ∨
            (now + call.dur + waitAfter c delay = max (now + call.dur) c.timeout ∧ tieK = true) then
          .retry (waitAfter c delay) (now + call.dur + waitAfter c delay)
        else .done (.timeout (k + 1) (max (now + call.dur) c.timeout)) := by
  have hw := waitAfter_nonneg c delay
  unfold step waitAfter at *
  generalize timerWait (nextDelay c delay) = w at *
  generalize now + (call.dur : Int) = t
  cases call.resp with
  | some r => rfl
  | none =>
    dsimp only
    by_cases h1 : c.timeout ≤ t
    · rw [if_pos h1, Int.max_eq_left h1]
      by_cases h2 : w = 0 ∧ tieK = true
      · rw [if_pos h2, if_pos (Or.inr ⟨by omega, h2.2⟩), h2.1, Int.add_zero]
      · rw [if_neg h2, if_neg]
        rintro (h | ⟨h, ht⟩)
        · omega
        · exact h2 ⟨by omega, ht⟩
    · rw [if_neg h1, Int.max_eq_right (by omega)]
      by_cases h2 : t + w < c.timeout
      · rw [if_pos h2, if_pos (Or.inl h2)]
      · rw [if_neg h2]
        by_cases h3 : t + w = c.timeout ∧ tieK = true
        · rw [if_pos h3, if_pos (Or.inr h3)]
        · rw [if_neg h3, if_neg (fun h => h.elim h2 h3)]

theorem step_success {ρ : Type} (c : Cfg) {call : Call ρ} (tieK : Bool) (now delay : Int) (k : Nat) {x : ρ}
    (h : call.resp = some x) : step c call tieK now delay k = .done (.success k x (now + call.dur)) := by
  rw [step_eq, h]

@[simp] theorem run_zero {ρ : Type} (c : Cfg) (script : Nat → Call ρ) (tie : Nat → Bool) (now delay : Int) (k : Nat) :
    run c script tie 0 now delay k = ⟨[], [], .outOfFuel⟩ := rfl

theorem run_succ {ρ : Type} (c : Cfg) (script : Nat → Call ρ) (tie : Nat → Bool) (fuel : Nat) (now delay : Int) (k : Nat) :
    run c script tie (fuel + 1) now delay k =
      match step c (script k) (tie k) now delay k with
      | .done r => ⟨[now], [], r⟩
      | .retry w now' => (run c script tie fuel now' (nextDelay c delay) (k + 1)).push now w := rfl

@[simp] theorem push_res {ρ : Type} (now w : Int) (t : Trace ρ) : (t.push now w).res = t.res := rfl
@[simp] theorem push_calls {ρ : Type} (now w : Int) (t : Trace ρ) : (t.push now w).calls = now :: t.calls := rfl
@[simp] theorem push_waits {ρ : Type} (now w : Int) (t : Trace ρ) : (t.push now w).waits = w :: t.waits := rfl

variable {ρ : Type} (c : Cfg) (script : Nat → Call ρ) (tie : Nat → Bool)

/-- The four ways a run can go.  Call `k`, started at `now`, returns at `now + dur`; if it failed the
    loop goes round only if the timer fires no later than the context is done, at
    `max (now + dur) Timeout`.  That is all the lemmas from `run_shape` to `run_timeout_le` need (who
    wins a draw plays no part in them), and they never look at `step`; `run_spin`, which has to show
    that the loop DOES go round, computes with `step_eq` itself.  The relation over-approximates `run`: `timeout` does not
    say that the deadline came first. -/
inductive Runs : Nat → Int → Int → Nat → Trace ρ → Prop
  | fuel0 (now delay : Int) (k : Nat) : Runs 0 now delay k ⟨[], [], .outOfFuel⟩
  | success (fuel : Nat) (now delay : Int) (k : Nat) (r : ρ) : (script k).resp = some r →
      Runs (fuel + 1) now delay k ⟨[now], [], .success k r (now + (script k).dur)⟩
  | timeout (fuel : Nat) (now delay : Int) (k : Nat) : (script k).resp = none →
      Runs (fuel + 1) now delay k ⟨[now], [], .timeout (k + 1) (max (now + (script k).dur) c.timeout)⟩
  | retry (fuel : Nat) (now delay : Int) (k : Nat) (tr : Trace ρ) : (script k).resp = none →
      now + (script k).dur + waitAfter c delay ≤ max (now + (script k).dur) c.timeout →
      Runs fuel (now + (script k).dur + waitAfter c delay) (nextDelay c delay) (k + 1) tr →
      Runs (fuel + 1) now delay k (tr.push now (waitAfter c delay))

theorem run_runs (fuel : Nat) (now delay : Int) (k : Nat) :
    Runs c script fuel now delay k (run c script tie fuel now delay k) := by
  induction fuel generalizing now delay k with
  | zero => exact .fuel0 now delay k
  | succ n ih =>
    rw [run_succ, step_eq]
    cases hr : (script k).resp with
    | some r => exact .success n now delay k r hr
    | none =>
      by_cases h : now + (script k).dur + waitAfter c delay < max (now + (script k).dur) c.timeout ∨
          (now + (script k).dur + waitAfter c delay = max (now + (script k).dur) c.timeout ∧ tie k = true)
      · rw [if_pos h]
        exact .retry n now delay k _ hr (h.elim Int.le_of_lt fun h => Int.le_of_eq h.1) (ih ..)
      · rw [if_neg h]
        exact .timeout n now delay k hr

theorem get_runs (fuel : Nat) : Runs c script fuel 0 initialDelay 0 (get c script tie fuel) :=
  run_runs c script tie fuel 0 initialDelay 0

variable {c script} {fuel : Nat} {now delay : Int} {k : Nat} {tr : Trace ρ}

/-- Which calls a run made and what its result says of them.  `k + tr.calls.length` is the number of the call after the
    last: a retry keeps it.  The first clause serves all three results: every call made failed, except the last one of a
    run that ended in success (readers take the left side with `.resolve_right`). -/
theorem run_shape (h : Runs c script fuel now delay k tr) :
    (∀ i, k ≤ i → i < k + tr.calls.length → (script i).resp = none ∨ ∃ r t, tr.res = .success i r t) ∧
    match tr.res with
    | .success j r t => j + 1 = k + tr.calls.length ∧ (script j).resp = some r ∧
        tr.waits.length + 1 = tr.calls.length ∧ ∃ s, tr.calls.getLast? = some s ∧ t = s + (script j).dur
    | .timeout n t => n = k + tr.calls.length ∧ k < n ∧
        ∃ s, tr.calls.getLast? = some s ∧ t = max (s + (script (n - 1)).dur) c.timeout
    | .outOfFuel => tr.calls.length = fuel := by
  induction h with
  | fuel0 now delay k => exact ⟨fun i h1 h2 => absurd h2 (Nat.not_lt.mpr h1), rfl⟩
  | success fuel now delay k r hr =>
    refine ⟨fun i h1 h2 => Or.inr ⟨r, now + (script k).dur, ?_⟩, rfl, hr, rfl, now, rfl, rfl⟩
    rw [Nat.le_antisymm (Nat.le_of_lt_succ h2) h1]
  | timeout fuel now delay k hr =>
    refine ⟨fun i h1 h2 => Or.inl ?_, rfl, Nat.lt_succ_self k, now, rfl, rfl⟩
    rw [Nat.le_antisymm (Nat.le_of_lt_succ h2) h1, hr]
  | retry fuel now delay k tr hr _ _ ih =>
    obtain ⟨ih1, ih2⟩ := ih
    refine ⟨fun i h1 h2 => ?_, ?_⟩
    · by_cases hik : i = k
      · exact Or.inl (hik ▸ hr)
      · exact ih1 i (by omega) (by simp only [push_calls, List.length_cons] at h2; omega)
    · simp only [push_res, push_calls, push_waits, List.length_cons, List.getLast?_cons]
      revert ih2
      cases tr.res with
      | success j r t =>
        rintro ⟨h1, h2, h3, s, h4, h5⟩
        exact ⟨by omega, h2, by omega, s, by rw [h4]; rfl, h5⟩
      | timeout n t =>
        rintro ⟨h1, h2, s, h4, h5⟩
        exact ⟨by omega, by omega, s, by rw [h4]; rfl, h5⟩
      | outOfFuel => exact congrArg (· + 1)

/-- capping commutes with scaling by `p ≥ 1`: the step of `run_waits_exact` -/
theorem min_scale (p a M : Int) (hp : 1 ≤ p) (hM : 0 ≤ M) : min (p * min a M) M = min (p * a) M := by
  rcases Int.le_total a M with h | h
  · rw [Int.min_eq_left h]
  · have h1 : M ≤ p * M := by simpa using Int.mul_le_mul_of_nonneg_right hp hM
    have h2 : p * M ≤ p * a := Int.mul_le_mul_of_nonneg_left h (by omega)
    rw [Int.min_eq_right h, Int.min_eq_right h1, Int.min_eq_right (Int.le_trans h1 h2)]

theorem run_waits_exact (hm : 0 ≤ c.maxDelay) (h : Runs c script fuel now delay k tr) (hd : 0 ≤ delay) :
    ∀ i w, tr.waits[i]? = some w → w = min (2 ^ (i + 1) * delay) c.maxDelay := by
  induction h with
  | fuel0 | success | timeout => nofun
  | retry fuel now delay k tr _ _ _ ih =>
    intro i w h
    cases i with
    | zero =>
      cases h
      rw [waitAfter_eq, Int.max_eq_left (Int.le_min.mpr ⟨by omega, hm⟩), ← Int.two_mul]
      rfl
    | succ i =>
      rw [ih (by rw [nextDelay_eq]; omega) i w h, nextDelay_eq,
        min_scale _ _ _ (Int.add_one_le_of_lt (Int.pow_pos (by decide))) hm,
        Int.pow_succ 2 (i + 1), Int.mul_assoc, Int.two_mul]

/-- doubling keeps the delay, and with it every wait, at or above any `m` with `0 < m ≤ Max` that
    twice the delay has reached; and a retry after a positive wait starts by the deadline -/
theorem wait_ge {m delay : Int} (hm : 0 < m) (hM : m ≤ c.maxDelay) (hd : m ≤ delay + delay) {t : Int}
    (hle : t + waitAfter c delay ≤ max t c.timeout) :
    m ≤ waitAfter c delay ∧ m ≤ nextDelay c delay + nextDelay c delay ∧ t + waitAfter c delay ≤ c.timeout := by
  rw [waitAfter_eq] at *
  rw [nextDelay_eq]
  have h : m ≤ min (delay + delay) c.maxDelay := Int.le_min.mpr ⟨hd, hM⟩
  generalize min (delay + delay) c.maxDelay = x at *
  omega

/-- When every wait is at least `m > 0` the time left to the deadline is a measure: a retry starts
    no later than the deadline and at least `m` after the call before it, so `fuel` calls suffice as
    soon as `fuel · m` exceeds the time left. -/
theorem run_terminates {m : Int} (hm : 0 < m) (hM : m ≤ c.maxDelay) (h : Runs c script fuel now delay k tr)
    (hd : m ≤ delay + delay) (hf : max (c.timeout - now) 0 < (fuel : Int) * m) : tr.res ≠ .outOfFuel := by
  induction h with
  | fuel0 => rw [Int.natCast_zero, Int.zero_mul] at hf; omega
  | success | timeout => nofun
  | retry fuel now delay k tr _ hle _ ih =>
    obtain ⟨hw, hd', h1⟩ := wait_ge hm hM hd hle
    rw [Int.natCast_succ, Int.add_mul, Int.one_mul] at hf
    have h2 := Int.lt_of_le_of_lt (Int.le_max_left ..) hf
    exact ih hd' (Int.max_lt.mpr ⟨by omega, by omega⟩)

theorem run_timeout_le {m : Int} (hm : 0 < m) (hM : m ≤ c.maxDelay) (G : Nat) (hG : ∀ k, (script k).dur ≤ G)
    (h : Runs c script fuel now delay k tr) (hd : m ≤ delay + delay) :
    ∀ n t, tr.res = .timeout n t → t ≤ max c.timeout now + G := by
  induction h with
  | fuel0 | success => nofun
  | timeout _ now _ k =>
    intro n t h
    cases h
    have := Int.ofNat_le.mpr (hG k)
    omega
  | retry fuel now delay k tr _ hle _ ih =>
    obtain ⟨-, hd', h1⟩ := wait_ge hm hM hd hle
    intro n t h
    have := ih hd' n t h
    rw [Int.max_eq_left h1] at this
    exact Int.le_trans this (Int.add_le_add_right (Int.le_max_left ..) _)

variable (c script)

/-- F13: with `Max ≤ 0` every wait is 0, so a call that fails at once at instant 0 is followed by
    the next at the same instant as long as the deadline lies ahead, and also after it when the
    draws between timer and context go to the timer. -/
theorem run_spin (hm : c.maxDelay ≤ 0) (hs : ∀ k, (script k).dur = 0 ∧ (script k).resp = none)
    (h : 0 < c.timeout ∨ ∀ k, tie k = true) (n : Nat) (delay : Int) (k : Nat) :
    run c script tie n 0 delay k = ⟨List.replicate n 0, List.replicate n 0, .outOfFuel⟩ := by
  induction n generalizing delay k with
  | zero => rfl
  | succ n ih =>
    have hw : waitAfter c delay = 0 := by rw [waitAfter_eq]; omega
    rw [run_succ, step_eq, (hs k).2, (hs k).1, hw, if_pos]
    · simp only [Int.natCast_zero, Int.add_zero, ih, Trace.push, List.replicate_succ]
    · rcases h with h | h
      · exact Or.inl (by omega)
      · exact (Int.lt_or_eq_of_le (Int.le_max_left ..)).imp_right fun h' => ⟨h', h k⟩

end Tdx.Retry
