/- Helper lemmas about `Outcome`, `guard'`, `slice` and the little-endian codecs. -/
import TdxModel.Basic

namespace Tdx
variable {α β : Type}

theorem bind_ok_iff {x : Outcome α} {f : α → Outcome β} {r} :
    (x >>= f) = .ok r ↔ ∃ a, x = .ok a ∧ f a = .ok r := by
  cases x <;> simp [bind]

theorem bind_unit_ok_iff {x : Outcome Unit} {f : Unit → Outcome β} {r} :
    (x >>= f) = .ok r ↔ x = .ok () ∧ f () = .ok r := by
  cases x <;> simp [bind]

theorem guard_eq_ok_iff {c : Bool} {e : String} {u : Unit} : guard' c e = .ok u ↔ c = true := by
  cases c <;> simp [guard']

theorem bind_guard_ok_iff {c : Bool} {e} {f : Unit → Outcome β} {r} :
    (guard' c e >>= f) = .ok r ↔ c = true ∧ f () = .ok r := by
  cases c <;> simp [guard', bind]

theorem bind_eq {x : Outcome α} {a} {f : α → Outcome β} (h : x = .ok a) : (x >>= f) = f a := by
  simp [h, bind]

theorem guard_true {c : Bool} {e} {f : Unit → Outcome β} (h : c = true) : (guard' c e >>= f) = f () := by
  simp [guard', h, bind]

theorem guard_false {c : Bool} {e} {f : Unit → Outcome β} (h : c = false) : (guard' c e >>= f) = .err e := by
  simp [guard', h, bind]

@[simp] theorem pure_ne_panic (a : α) : (pure a : Outcome α) ≠ .panic := by simp [pure]
@[simp] theorem ok_ne_panic (a : α) : (Outcome.ok a : Outcome α) ≠ .panic := by simp
@[simp] theorem err_ne_panic (e : String) : (Outcome.err e : Outcome α) ≠ .panic := by simp
@[simp] theorem guard_ne_panic (c : Bool) (e : String) : guard' c e ≠ .panic := by
  unfold guard'; split <;> simp

theorem bind_ne_panic_iff {x : Outcome α} {f : α → Outcome β} :
    (x >>= f) ≠ .panic ↔ x ≠ .panic ∧ ∀ a, x = .ok a → f a ≠ .panic := by
  cases x <;> simp [bind]

theorem bind_ne_panic {x : Outcome α} {f : α → Outcome β}
    (hx : x ≠ .panic) (hf : ∀ a, x = .ok a → f a ≠ .panic) : (x >>= f) ≠ .panic :=
  bind_ne_panic_iff.mpr ⟨hx, hf⟩

theorem ne_panic_cases {x : Outcome α} (h : x ≠ .panic) : (∃ a, x = .ok a) ∨ ∃ e, x = .err e := by
  cases x with
  | ok a => exact .inl ⟨a, rfl⟩
  | err e => exact .inr ⟨e, rfl⟩
  | panic => exact absurd rfl h

theorem isErr_of_err {x : Outcome α} (h : ∃ e, x = .err e) : x.isErr = true := by
  obtain ⟨e, rfl⟩ := h
  rfl

/-- peels one `if` off a cascade without touching the rest -/
theorem ite_ne {α} {c : Prop} [Decidable c] {a b x : α} (ha : a ≠ x) (hb : b ≠ x) : (if c then a else b) ≠ x := by
  split <;> assumption

theorem slice_ok {b : Bytes} {lo hi : Nat} {r} (h : slice b lo hi = .ok r) :
    lo ≤ hi ∧ hi ≤ b.length ∧ r = (b.take hi).drop lo := by
  unfold slice at h; split at h
  · cases h; simp_all
  · cases h

theorem slice_eq {b : Bytes} {lo hi : Nat} (h : lo ≤ hi ∧ hi ≤ b.length) :
    slice b lo hi = .ok ((b.take hi).drop lo) := by
  unfold slice; simp [h]

theorem slice_len {b : Bytes} {lo hi : Nat} {r} (h : slice b lo hi = .ok r) : r.length = hi - lo := by
  obtain ⟨h1, h2, rfl⟩ := slice_ok h
  simp; omega

theorem slice_ne_panic_iff {b : Bytes} {lo hi} : slice b lo hi ≠ .panic ↔ lo ≤ hi ∧ hi ≤ b.length := by
  unfold slice; split <;> simp [*]

theorem slice_ne_panic {b : Bytes} {lo hi} (h : lo ≤ hi ∧ hi ≤ b.length) : slice b lo hi ≠ .panic :=
  slice_ne_panic_iff.mpr h

theorem slice_ne_err {b : Bytes} {lo hi e} : slice b lo hi ≠ .err e := by
  unfold slice; split <;> simp

/-- adjacent windows of a list join up: the algebra behind `slice_append` and `Abi.sub_append_sub` -/
theorem take_drop_append {α} (b : List α) {lo mid hi : Nat} (h1 : lo ≤ mid) (h2 : mid ≤ hi) :
    (b.take mid).drop lo ++ (b.take hi).drop mid = (b.take hi).drop lo := by
  obtain ⟨i, rfl⟩ := Nat.exists_eq_add_of_le h1
  obtain ⟨j, rfl⟩ := Nat.exists_eq_add_of_le h2
  rw [List.drop_take, List.drop_take, List.drop_take, Nat.add_sub_cancel_left, Nat.add_sub_cancel_left, Nat.add_assoc,
    Nat.add_sub_cancel_left, List.take_add, List.drop_drop]

/-- a window of a window is a window: the algebra behind `slice_of_slice` and `Abi.sub_sub` -/
theorem take_drop_take_drop {α} (b : List α) (k m lo hi : Nat) (h : k + hi ≤ m) :
    (((b.take m).drop k).take hi).drop lo = (b.take (k + hi)).drop (k + lo) := by
  rw [List.take_drop, List.take_take, Nat.min_eq_left h, List.drop_drop]

theorem slice_append {b : Bytes} {lo mid hi : Nat} {x y}
    (h1 : slice b lo mid = .ok x) (h2 : slice b mid hi = .ok y) : slice b lo hi = .ok (x ++ y) := by
  obtain ⟨a1, _, rfl⟩ := slice_ok h1
  obtain ⟨b1, b2, rfl⟩ := slice_ok h2
  rw [slice_eq ⟨Nat.le_trans a1 b1, b2⟩, take_drop_append b a1 b1]

theorem slice_full {b : Bytes} {r} (h : slice b 0 b.length = .ok r) : r = b := by
  obtain ⟨_, _, rfl⟩ := slice_ok h; simp

theorem slice_of_slice {b : Bytes} {k m lo hi : Nat} {s r} (hs : slice b k m = .ok s) (h : slice s lo hi = .ok r) :
    slice b (k + lo) (k + hi) = .ok r := by
  obtain ⟨a1, a2, rfl⟩ := slice_ok hs
  obtain ⟨b1, b2, rfl⟩ := slice_ok h
  rw [List.length_drop, List.length_take, Nat.min_eq_left a2] at b2
  rw [slice_eq ⟨Nat.add_le_add_left b1 k, by omega⟩, take_drop_take_drop b k m lo hi (by omega)]

theorem sliceFrom_drop {b : Bytes} {k} {r} (h : sliceFrom b k = .ok r) : k ≤ b.length ∧ r = b.drop k := by
  obtain ⟨h1, _, rfl⟩ := slice_ok h
  exact ⟨h1, by simp⟩

theorem sliceFrom_eq_drop {b : Bytes} {k : Nat} (h : k ≤ b.length) : sliceFrom b k = .ok (b.drop k) := by
  rw [sliceFrom, slice_eq ⟨h, Nat.le_refl _⟩, List.take_length]

theorem sliceFrom_ne_panic {b : Bytes} {k} (hk : k ≤ b.length) : sliceFrom b k ≠ .panic :=
  sliceFrom_eq_drop hk ▸ ok_ne_panic _

theorem slice_prefix (x y : Bytes) : slice (x ++ y) 0 x.length = .ok x := by
  unfold slice; simp

theorem slice_suffix (x y : Bytes) : slice (x ++ y) x.length (x ++ y).length = .ok y := by
  rw [slice_eq ⟨by simp, Nat.le_refl _⟩, List.take_length, List.drop_left]

theorem slice_mid' (x y z : Bytes) (lo hi : Nat) (hlo : lo = x.length) (hhi : hi = x.length + y.length) :
    slice (x ++ y ++ z) lo hi = .ok y := by
  subst hlo hhi
  rw [slice_eq ⟨Nat.le_add_right .., by simp only [List.length_append]; omega⟩, List.append_assoc, List.take_length_add_append,
    List.drop_left, List.take_left]

theorem toLE16_len (n : Nat) : (toLE16 n).length = 2 := rfl
theorem toLE32_len (n : Nat) : (toLE32 n).length = 4 := rfl

/-- one little-endian digit: the low byte of `x + 256·m` is `x`, the rest is `m` -/
theorem ofNat_digit (x : UInt8) (m : Nat) : UInt8.ofNat ((x.toNat + 256 * m) % 256) = x ∧ (x.toNat + 256 * m) / 256 = m := by
  have := x.toNat_lt
  exact ⟨UInt8.toNat_inj.mp (by simp), by omega⟩

theorem toLE16_le16 {b : Bytes} (h : b.length = 2) : toLE16 (le16 b) = b := by
  match b, h with
  | [x, y], _ =>
    have hy := ofNat_digit y 0
    simp only [Nat.mul_zero, Nat.add_zero] at hy
    simp only [le16, toLE16, ofNat_digit x, hy]

theorem toLE32_le32 {b : Bytes} (h : b.length = 4) : toLE32 (le32 b) = b := by
  match b, h with
  | [x, y, z, w], _ =>
    -- Horner form, so that every byte of `toLE32` is one `ofNat_digit` step
    have e : x.toNat + 256 * y.toNat + 65536 * z.toNat + 16777216 * w.toNat =
        x.toNat + 256 * (y.toNat + 256 * (z.toNat + 256 * (w.toNat + 256 * 0))) := by omega
    have d2 (n : Nat) : n / 65536 = n / 256 / 256 := by rw [Nat.div_div_eq_div_mul]
    have d3 (n : Nat) : n / 16777216 = n / 256 / 256 / 256 := by rw [Nat.div_div_eq_div_mul, Nat.div_div_eq_div_mul]
    simp only [le32, toLE32, e, d2, d3, ofNat_digit]

theorem le16_toLE16 {n : Nat} (h : n < 65536) : le16 (toLE16 n) = n := by
  simp [le16, toLE16]; omega
theorem le32_toLE32 {n : Nat} (h : n < 4294967296) : le32 (toLE32 n) = n := by
  simp [le32, toLE32]; omega

theorem le16_lt (b : Bytes) : le16 b < 65536 := by
  unfold le16; split
  · rename_i x y; have := x.toNat_lt; have := y.toNat_lt; omega
  · omega

theorem le32_lt (b : Bytes) : le32 b < 4294967296 := by
  unfold le32; split
  · rename_i x y z w; have := x.toNat_lt; have := y.toNat_lt; have := z.toNat_lt; have := w.toNat_lt; omega
  · omega

end Tdx
