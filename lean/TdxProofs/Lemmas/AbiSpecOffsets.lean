/-
  abi: the independent reference parser `specParse` of `TdxModel/AbiSpec.lean` (a cursor over the input; fixed-size
  records read from `(name, size)` tables) in terms of offsets, and what it accepts the parser accepts.
-/
import TdxProofs.Lemmas.AbiParse

namespace Tdx.Abi
variable {α β : Type}

theorem next_bind_iff {n : Nat} {b : Bytes} {f : Bytes × Bytes → Option β} {r : β} :
    (next n b).bind f = some r ↔ n ≤ b.length ∧ f (sub b 0 n, b.drop n) = some r := by
  by_cases h : n ≤ b.length <;> simp [next, h, sub]

theorem optGuard_bind_iff {p : Prop} [Decidable p] {f : Unit → Option β} {r : β} :
    (guard p : Option Unit).bind f = some r ↔ p ∧ f () = some r := by
  by_cases h : p <;> simp [guard, h, failure]

/-- the fields of a record, cut out of the front of `b` -/
def cut : Table → Bytes → List Bytes
  | [], _ => []
  | (_, n) :: tbl, b => sub b 0 n :: cut tbl (b.drop n)

def total : Table → Nat
  | [] => 0
  | (_, n) :: tbl => n + total tbl

theorem readRecord_bind_iff {tbl : Table} {b : Bytes} {f : List Bytes × Bytes → Option β} {r : β} :
    (readRecord tbl b).bind f = some r ↔ total tbl ≤ b.length ∧ f (cut tbl b, b.drop (total tbl)) = some r := by
  induction tbl generalizing b f with
  | nil => simp [readRecord, total, cut]
  | cons e tbl ih =>
    simp only [readRecord, total, cut, Option.bind_eq_bind, Option.pure_def, Option.bind_assoc, next_bind_iff, ih,
      Option.bind_some, List.length_drop, List.drop_drop, ← and_assoc]
    exact and_congr_left' (by omega)

theorem specHeader_bind_iff {b : Bytes} {f : Header × Bytes → Option β} {r : β} :
    (specHeader b).bind f = some r ↔ 48 ≤ b.length ∧ f (hdrOf b, b.drop 48) = some r := by
  unfold specHeader hdrOf
  simp only [Option.bind_eq_bind, Option.pure_def, Option.bind_assoc, readRecord_bind_iff, headerTable, total, cut, sub_drop,
    List.drop_drop, Nat.reduceAdd, Nat.add_zero, Option.bind_some]

theorem specBody_bind_iff {b : Bytes} {f : TdQuoteBody × Bytes → Option β} {r : β} :
    (specBody b).bind f = some r ↔ 584 ≤ b.length ∧ f (bodyOf b, b.drop 584) = some r := by
  unfold specBody bodyOf
  simp only [Option.bind_eq_bind, Option.pure_def, Option.bind_assoc, readRecord_bind_iff, tdBodyTable, total, cut, sub_drop,
    List.drop_drop, Nat.reduceAdd, Nat.add_zero, Option.bind_some]

theorem specReport_bind_iff {b : Bytes} {f : EnclaveReport × Bytes → Option β} {r : β} :
    (specReport b).bind f = some r ↔ 384 ≤ b.length ∧ f (reportOf b, b.drop 384) = some r := by
  unfold specReport reportOf
  simp only [Option.bind_eq_bind, Option.pure_def, Option.bind_assoc, readRecord_bind_iff, qeReportTable, total, cut, sub_drop,
    List.drop_drop, Nat.reduceAdd, Nat.add_zero, Option.bind_some]

/-- a fixed-size record only looks at its own bytes -/
theorem hdrOf_sub (b : Bytes) (k m : Nat) (h : k + 48 ≤ m) : hdrOf (sub b k m) = hdrOf (b.drop k) := by
  unfold hdrOf; simp (disch := exact Nat.add_le_add_left (by decide) k) only [sub_sub_le b h, sub_drop]

theorem bodyOf_sub (b : Bytes) (k m : Nat) (h : k + 584 ≤ m) : bodyOf (sub b k m) = bodyOf (b.drop k) := by
  unfold bodyOf; simp (disch := exact Nat.add_le_add_left (by decide) k) only [sub_sub_le b h, sub_drop]

theorem reportOf_sub (b : Bytes) (k m : Nat) (h : k + 384 ≤ m) : reportOf (sub b k m) = reportOf (b.drop k) := by
  unfold reportOf; simp (disch := exact Nat.add_le_add_left (by decide) k) only [sub_sub_le b h, sub_drop]

/-- Whatever the reference parser accepts, the parser accepts, with the same result: the cursor positions are the
    parser's offsets.  (The converse goes through the serialiser, `AbiInverse`.) -/
theorem quoteOK_of_specParse {b : Bytes} {q : QuoteV4} : specParse b = some q → QuoteOK b ∧ q = quoteOf b := by
  unfold specParse QuoteOK HdrOK SignedOK CertOK QeCertOK AuthOK PckOK quoteOf signedOf certOf qeCertOf authOf pckOf
  simp only [Option.bind_eq_bind, Option.pure_def, specHeader_bind_iff, specBody_bind_iff, specReport_bind_iff,
    next_bind_iff, optGuard_bind_iff, hdrOf_sub b 0 48 (Nat.le_refl _), bodyOf_sub b 48 632 (Nat.le_refl _), sub_drop,
    List.drop_zero, List.drop_drop, List.length_drop, length_sub, Nat.reduceAdd, Nat.add_zero, Option.some.injEq]
  generalize le32 (sub b 632 636) = n
  generalize sub b 636 (636 + n) = sd
  -- 582 = 64 + 64 + 6 + 384 + 64: signature, key, certification header, QE report, QE report signature
  generalize le16 (sub sd 582 584) = a
  -- offsets behind the authentication data come out as sums around `a`: bring them to the form `numeral + a`
  simp (disch := decide) only [hdrOf, reportOf_sub, sub_sub, Nat.sub_sub, pos_le_sub, Nat.add_right_comm _ a, ← Nat.add_assoc,
    Nat.reduceAdd]
  simp only [← and_assoc]
  -- both sides now list the same inequalities about `n`, `a` and the lengths, grouped by cursor step on the left and by
  -- parser level on the right
  rintro ⟨h, rfl⟩
  exact ⟨by omega, rfl⟩

theorem toOption_eq_some_iff {x : Outcome α} {a : α} : x.toOption = some a ↔ x = .ok a := by
  cases x <;> simp [Outcome.toOption]

end Tdx.Abi
