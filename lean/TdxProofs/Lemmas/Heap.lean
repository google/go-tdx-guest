/- The heap model's frame: what a call keeps of the heap it was given, step by step. -/
import TdxModel.Heap

namespace Tdx.Heap

/-- Heap `h'` with slice `s` is fresh above `n` with respect to `h`: the first `n` buffers of `h` are still there,
    unchanged to capacity, `s` lives in a later one, and `h'` has at least `n` buffers (`len`: what `append` needs in order
    to grow).  `make` and `clone` establish it for `n` = the number of buffers there were; a store through `s` and
    `append(s, …)` (in place or growing) preserve it. -/
structure FreshAbove (n : Nat) (h h' : Heap) (s : Slice) : Prop where
  same : ∀ j, j < n → h'.bufs[j]? = h.bufs[j]?
  buf : n ≤ s.buf
  len : n ≤ h'.bufs.length

theorem write_other (h : Heap) (w : Write) (j : Nat) (hj : w.1 ≠ j) : (h.write w).bufs[j]? = h.bufs[j]? := by
  simp [Heap.write, hj]

theorem write_length (h : Heap) (w : Write) : (h.write w).bufs.length = h.bufs.length := by
  simp [Heap.write]

theorem alloc_preserves (h : Heap) (len cap j : Nat) (hj : j < h.bufs.length) : (h.alloc len cap).1.bufs[j]? = h.bufs[j]? :=
  List.getElem?_append_left hj

theorem alloc_length (h : Heap) (len cap : Nat) : (h.alloc len cap).1.bufs.length = h.bufs.length + 1 := by
  simp [Heap.alloc]

theorem FreshAbove.alloc (h : Heap) (len cap : Nat) : FreshAbove h.bufs.length h (h.alloc len cap).1 (h.alloc len cap).2 :=
  ⟨alloc_preserves h len cap, Nat.le_refl _, alloc_length h len cap ▸ Nat.le_succ _⟩

theorem FreshAbove.clone (h : Heap) (s : Slice) : FreshAbove h.bufs.length h (h.clone s).1 (h.clone s).2.1 :=
  ⟨fun _ hj => List.getElem?_append_left hj, Nat.le_refl _, by simp [Heap.clone]⟩

/-- a store through any slice of `s`'s buffer -/
theorem FreshAbove.write {n : Nat} {h h' : Heap} {s : Slice} (f : FreshAbove n h h' s) (off : Nat) (d : Bytes) {s' : Slice}
    (hs : s'.buf = s.buf) : FreshAbove n h (h'.write (s.buf, off, d)) s' :=
  ⟨fun j hj => (write_other h' _ j (by have := f.buf; omega)).trans (f.same j hj), hs ▸ f.buf,
    (write_length ..).symm ▸ f.len⟩

theorem FreshAbove.append {n : Nat} {h h' : Heap} {s : Slice} (f : FreshAbove n h h' s) (d : Bytes) :
    FreshAbove n h (h'.append s d).1 (h'.append s d).2.1 := by
  unfold Heap.append
  split
  · exact f.write _ d rfl
  · have := f.len
    exact ⟨fun j hj => by simpa [List.getElem?_append_left (by omega : j < h'.bufs.length)] using f.same j hj, f.len,
      by simp; omega⟩

end Tdx.Heap
