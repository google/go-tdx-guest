/-
  Two ways of saying what a call does, each with the lemmas that close it under the ways the Go code combines calls
  (early return, guard, sequencing, `if`), so that a proof follows the shape of the function it is about.

  `Decides x P v`: the outcome `x` is `ok v` when `P` holds and an error otherwise.  One such statement about a
  parser level, a serialiser or a validation says at once what is accepted, what is returned, that failure is an
  error and that nothing panics.  It fits a function whose result is a closed form of its input.

  `x.Ensures P`: `x` does not panic, and a value it returns satisfies `P`.  It fits a function of which only success
  needs describing (the ASN.1 extractors, the fetches, chain extraction): that it never panics, what a successful call implies, and that an input
  which cannot satisfy `P` is refused are read off that one statement.
-/
import TdxProofs.Lemmas.Basic

namespace Tdx
variable {α β : Type}

structure Decides (x : Outcome α) (P : Prop) (v : α) : Prop where
  ok : P → x = .ok v
  err : ¬ P → ∃ e, x = .err e

namespace Decides
variable {x : Outcome α} {P Q : Prop} {v : α}

theorem cases (h : Decides x P v) : (P ∧ x = .ok v) ∨ (¬ P ∧ ∃ e, x = .err e) :=
  (Classical.em P).imp (fun hp => ⟨hp, h.ok hp⟩) fun hp => ⟨hp, h.err hp⟩

theorem ok_iff (h : Decides x P v) {r : α} : x = .ok r ↔ P ∧ r = v := by
  rcases h.cases with ⟨hp, rfl⟩ | ⟨hp, e, rfl⟩ <;> simp [hp, eq_comm]

theorem ok_iff_unit {x : Outcome Unit} (h : Decides x P ()) : x = .ok () ↔ P := by
  rw [h.ok_iff]; simp

theorem exists_ok_iff (h : Decides x P v) : (∃ r, x = .ok r) ↔ P := by
  simp only [h.ok_iff, exists_and_left, exists_eq, and_true]

theorem isOk_iff (h : Decides x P v) : x.isOk = true ↔ P := by
  rcases h.cases with ⟨hp, rfl⟩ | ⟨hp, e, rfl⟩ <;> simp [hp, Outcome.isOk]

theorem ne_panic (h : Decides x P v) : x ≠ .panic := by
  rcases h.cases with ⟨-, rfl⟩ | ⟨-, e, rfl⟩ <;> simp

theorem err_iff (h : Decides x P v) : (∃ e, x = .err e) ↔ ¬ P := by
  rcases h.cases with ⟨hp, rfl⟩ | ⟨hp, e, rfl⟩ <;> simp [hp]

theorem iff (h : Decides x P v) (hPQ : P ↔ Q) : Decides x Q v := propext hPQ ▸ h

theorem pure (v : α) : Decides (.ok v) True v := ⟨fun _ => rfl, fun h => absurd trivial h⟩

theorem of_eq (h : x = .ok v) : Decides x True v := h ▸ .pure v

theorem fail (e : String) : Decides (.err e : Outcome α) False v := ⟨False.elim, fun _ => ⟨e, rfl⟩⟩

/-- a call that cannot panic decides its own success -/
theorem of_ne_panic {x : Outcome Unit} (h : x ≠ .panic) : Decides x (x = .ok ()) () := by
  cases x with
  | ok u => exact ⟨fun _ => rfl, fun hn => absurd rfl hn⟩
  | err e => exact ⟨nofun, fun _ => ⟨e, rfl⟩⟩
  | panic => exact absurd rfl h

/-- (from here on `guard'` names this lemma inside the namespace: the function is written `Tdx.guard'` below) -/
theorem guard' (c : Bool) (e : String) : Decides (guard' c e) (c = true) () := by
  cases c
  · exact ⟨nofun, fun _ => ⟨e, rfl⟩⟩
  · exact ⟨fun _ => rfl, fun h => absurd rfl h⟩

/-- `if c { return err }` in front of a call, which may rely on `¬c` -/
theorem ite_err {c : Prop} [Decidable c] {e : String} (h : ¬c → Decides x P v) :
    Decides (if c then .err e else x) (¬c ∧ P) v := by
  by_cases hc : c <;> simp only [hc, if_true, if_false, not_true, not_false_eq_true, false_and, true_and]
  · exact .fail e
  · exact h hc

/-- `if c { return nil }` in front of a call, which may rely on `¬c` -/
theorem ite_ok {c : Prop} [Decidable c] (h : ¬c → Decides x P v) : Decides (if c then .ok v else x) (c ∨ P) v := by
  by_cases hc : c <;> simp only [hc, if_true, if_false, true_or, false_or]
  · exact .pure v
  · exact h hc

/-- sequencing: the second call may rely on the first having succeeded -/
theorem bind {a : α} (hx : Decides x P a) {f : α → Outcome β} {v : β} (hf : P → Decides (f a) Q v) :
    Decides (x >>= f) (P ∧ Q) v := by
  rcases hx.cases with ⟨hp, rfl⟩ | ⟨hp, e, rfl⟩
  · exact ⟨fun hq => (hf hp).ok hq.2, fun hn => (hf hp).err fun hq => hn ⟨hp, hq⟩⟩
  · exact ⟨fun h => absurd h.1 hp, fun _ => ⟨e, rfl⟩⟩

/-- …when nothing behind the first call can fail any more -/
theorem bind_last {a : α} (hx : Decides x P a) {f : α → Outcome β} {v : β} (hf : P → f a = .ok v) : Decides (x >>= f) P v :=
  (hx.bind fun hp => .of_eq (hf hp)).iff (and_iff_left trivial)

/-- `if !c { return err }` in front of `f`; `hc` says how the Boolean reads -/
theorem guard_bind {c : Bool} {p : Prop} (hc : c = true ↔ p) {e : String} {f : Unit → Outcome α} (h : p → Decides (f ()) Q v) :
    Decides (Tdx.guard' c e >>= f) (p ∧ Q) v :=
  ((guard' c e).iff hc).bind h

theorem guard_bind_last {c : Bool} {p : Prop} (hc : c = true ↔ p) {e : String} {f : Unit → Outcome α} (h : p → f () = .ok v) :
    Decides (Tdx.guard' c e >>= f) p v :=
  ((guard' c e).iff hc).bind_last h

/-- a structural check in front of a call that succeeds once the check has: the shape of every serialiser -/
theorem check_then {chk : Outcome Unit} (hnp : chk ≠ .panic) {f : Unit → Outcome α} (h : chk = .ok () → f () = .ok v) :
    Decides (chk >>= f) (chk = .ok ()) v :=
  (of_ne_panic hnp).bind_last h

/-- the last step of a parser whose structural check can still fail: check the assembled message, then return it -/
theorem check {chk : Outcome Unit} (hnp : chk ≠ .panic) (h : chk = .ok () ↔ P) (v : α) :
    Decides (chk >>= fun _ => Pure.pure v) P v :=
  (check_then (f := fun _ => Pure.pure v) hnp fun _ => rfl).iff h

end Decides

structure Outcome.Ensures (x : Outcome α) (P : α → Prop) : Prop where
  ne_panic : x ≠ .panic
  of_ok : ∀ {a}, x = .ok a → P a

namespace Outcome.Ensures
variable {x : Outcome α} {P Q : α → Prop}

theorem pure {a : α} (h : P a) : (Outcome.ok a).Ensures P :=
  ⟨nofun, fun e => by cases e; exact h⟩

theorem fail {e : String} : (Outcome.err e : Outcome α).Ensures P :=
  ⟨nofun, nofun⟩

theorem mono (h : x.Ensures P) (hPQ : ∀ a, P a → Q a) : x.Ensures Q :=
  ⟨h.ne_panic, fun e => hPQ _ (h.of_ok e)⟩

/-- a call whose value would have to satisfy the impossible fails -/
theorem err (h : x.Ensures P) (hP : ∀ a, ¬ P a) : ∃ e, x = .err e :=
  (ne_panic_cases h.ne_panic).resolve_left fun ⟨a, e⟩ => hP a (h.of_ok e)

theorem ite {c : Prop} [Decidable c] {a b : Outcome α} (ha : c → a.Ensures P) (hb : ¬c → b.Ensures P) :
    (if c then a else b).Ensures P := by
  split
  · exact ha ‹_›
  · exact hb ‹_›

/-- sequencing: the second call may rely on what the first ensures -/
theorem bind {f : α → Outcome β} {R : β → Prop} (hx : x.Ensures P) (hf : ∀ a, P a → (f a).Ensures R) :
    (x >>= f).Ensures R := by
  cases x with
  | ok a => exact hf a (hx.of_ok rfl)
  | err e => exact .fail
  | panic => exact absurd rfl hx.ne_panic

end Outcome.Ensures
end Tdx
