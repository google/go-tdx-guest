/- The two simp sets of the proofs (an attribute cannot be used in the module that declares it, hence this file). -/
import Lean.Meta.Tactic.Simp.RegisterCommand

/-- the regenerated constants: `simp only [gen_const]` turns them into literals -/
register_simp_attr gen_const

/-- the rules that turn "every entry of a literal check list holds" into the conjunction of the entries -/
register_simp_attr check_list
