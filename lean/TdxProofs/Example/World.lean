/-
  A concrete, fully honest attestation world in the model — the shared non-vacuity witness of the
  verification group (C01–C07, C11, C12): the hypotheses "the call is accepted", "collateral / revocation checking
  is on" … of the property theorems are satisfied by it at all three checking levels.

  The quote is the fully populated message of C09 (distinct bytes in every field) with a TEE_TCB_SVN whose
  second byte is non-zero (the TDX-module branch is taken) and a QE report data that is the hash binding under
  the example `Crypto`; the PCK leaf carries the concrete SGX extension tree of C13 (reversed TCB order, one
  unknown sub-extension, wrapped FMSPC).  The `Crypto` accepts every signature and hashes to zeros: enough to
  *satisfy* the hypotheses (the theorems themselves quantify over every `Crypto`).
-/
import TdxProofs.Example.Quote
import TdxProofs.Props.C13
import TdxProofs.Lemmas.Verify

namespace Tdx.Example
open Tdx.Gen Tdx.Abi Tdx.Verify

def exCrypto : Crypto :=
  { onCurve := fun _ => true, verifyRaw := fun _ _ _ => true, verifyCert := fun _ _ _ => true, sha256 := fun _ => zeros 32 }

/-- platform TEE_TCB_SVN: module ISVSVN 3, module version 1, then fourteen components -/
def tee0 : Bytes := [3, 1] ++ List.replicate 14 2

def q0 : QuoteV4 :=
  let s := Props.C09.sampleQuote
  { s with
    tdQuoteBody := s.tdQuoteBody.map fun t => { t with teeTcbSvn := tee0 }
    signedData := s.signedData.map fun sd =>
      { sd with certificationData := sd.certificationData.map fun cd =>
          { cd with qeReportCertData := cd.qeReportCertData.map fun qc =>
              { qc with qeReport := qc.qeReport.map fun r => { r with reportData := zeros 64 } } } } }

/-! certificates: 0 root, 1 intermediate (Platform CA), 2 PCK leaf, 3 TCB signer; all valid on [0, 1000] -/
def rootC : CertF :=
  { subjectCN := verify_rootCertPhrase, issuerCN := verify_rootCertPhrase, subject := 10, issuer := 10, serial := 1, notBefore := 0,
    notAfter := 1000, canSignCert := true, canSignCrl := true, keyId := 1, signedBy := 1, crlDPs := ["https://crl.example/root.der"] }
def interC : CertF :=
  { subjectCN := verify_intermediateCertPhrase, issuerCN := verify_rootCertPhrase, subject := 11, issuer := 10, serial := 2, notBefore := 0,
    notAfter := 1000, canSignCert := true, canSignCrl := true, keyId := 2, signedBy := 1 }
def leafC : CertF :=
  { subjectCN := verify_pckCertPhrase, issuerCN := verify_platformIssuer, subject := 12, issuer := 11, serial := 3, notBefore := 0,
    notAfter := 1000, keyId := 3, signedBy := 2, pck := Props.C13.cert0 }
def signerC : CertF :=
  { subjectCN := verify_tcbSigningPhrase, issuerCN := verify_rootCertPhrase, subject := 13, issuer := 10, serial := 4, notBefore := 0,
    notAfter := 1000, keyId := 4, signedBy := 1 }

def comps0 : List Nat := [5, 5, 2, 2, 3, 1, 0, 3, 128, 200, 255, 127, 0, 0, 9, 1]

def tcbDoc0 : TcbInfoDoc :=
  { id := verify_tcbInfoID, version := verify_tcbInfoVersion, nextUpdate := 1000, fmspc := "50806F000000", pceId := "0000",
    modMrsigner := List.replicate 48 7, modMask := List.replicate 8 0x0f, modAttributes := List.replicate 8 8,
    identities := [⟨"TDX_02", [{ isvsvn := 0, status := "Revoked" }]⟩,
                   ⟨"TDX_01", [{ isvsvn := 4, status := "OutOfDate" }, { isvsvn := 3, status := "UpToDate" }, { isvsvn := 0, status := "Revoked" }]⟩],
    levels := [{ sgx := comps0.map (· + 1), pcesvn := 65535, tdx := List.replicate 16 0, status := "OutOfDate" },   -- above the platform
               { sgx := comps0, pcesvn := 65535, tdx := [200, 200] ++ List.replicate 14 2, status := "UpToDate" },    -- first match (from index 2)
               { sgx := List.replicate 16 0, pcesvn := 0, tdx := List.replicate 16 0, status := "Revoked" }] }

def qeDoc0 : QeIdDoc :=
  { id := verify_qeIdentityID, version := verify_qeIdentityVersion, nextUpdate := 1000,
    miscselect := [0x78, 0x56, 0x04, 0x02], miscselectMask := [0xff, 0xff, 0x0f, 0x0f],
    attributes := List.replicate 16 8, attributesMask := List.replicate 16 0x0f,
    mrsigner := List.replicate 32 27, isvProdId := 0x0102,
    levels := [{ isvsvn := 0x0400, status := "UpToDate" }, { isvsvn := 0x0304, status := "UpToDate" }, { isvsvn := 0, status := "OutOfDate" }] }

def sig0 : String := String.ofList (List.replicate 128 'a')

/-! Anonymous constructors below: a PEM block is ⟨isCert, remLen, remIsNul, cert⟩, a response body
    ⟨structOk, signature, structDoc, raw, rawDoc, zero⟩, a CRL ⟨issuer, signedBy, revoked, nextUpdate⟩. -/

def issuerHdr (signer : Nat) : HdrF := .blocks [some ⟨true, 7, false, some signer⟩, some ⟨true, 0, false, some 0⟩]

def w0 : World :=
  { certs := [rootC, interC, leafC, signerC]
    chainPem := some [some ⟨true, 20, false, some 2⟩, some ⟨true, 10, false, some 1⟩, some ⟨true, 1, true, some 0⟩]   -- trailing NUL
    pool := some [0]
    embeddedRoot := 9
    fetchTcb := fun u => if u == tcbInfoURL "50806f000000" then
        .resp (issuerHdr 3) ⟨true, sig0, tcbDoc0, some [1, 2, 3], some tcbDoc0, false⟩ else .fail
    fetchQe := fun u => if u == qeIdentityURL then
        .resp (issuerHdr 3) ⟨true, sig0, qeDoc0, some [4, 5], some qeDoc0, false⟩ else .fail
    fetchPckCrl := fun u => if u == pckCrlURL verify_platformIssuerID then
        .resp (issuerHdr 1) (some ⟨11, 2, [30, 300], 1000⟩) else .fail
    fetchRootCrl := fun u => if u == "https://crl.example/root.der" then some (some ⟨10, 1, [20, 40], 1000⟩) else none
    clock := 500 }

def base : Opts := ⟨false, false, none⟩
def withCollateral : Opts := ⟨false, true, some ⟨400, 500, 600, 700, 800⟩⟩
def withRevocation : Opts := ⟨true, true, some ⟨1000, 1000, 1000, 1000, 1000⟩⟩   -- every window's last instant

/-! ### the stages of a call on this world, each evaluated once

  `String.toList` is quadratic under kernel evaluation (and `verifyResponse` reads the 128 characters of `sig0` for each of
  the two documents), so `unhex sig0` is computed from `String.toList_ofList` and the
  collateral checks are evaluated with that value substituted.  The substitution is done by `rw` with the equations of the
  definitions: a definitional `unfold` would leave the kernel to compare a `match` on `unhex sig0` with its folded form,
  which it does by evaluating the scrutinee. -/

def ch0 : Chain := ⟨2, 1, 0⟩
abbrev ext0 : PckExt.PckExtensions := PckExt.expected Props.C13.v0

/-- what `obtainBase` returns, and with what `obtainCrls` adds -/
def col1 : Collateral :=
  { tcbSigner := 3, tcbRoot := 0, tcb := tcbDoc0, tcbSig := sig0, tcbRaw := [1, 2, 3], tcbZero := false,
    qeSigner := 3, qeRoot := 0, qe := qeDoc0, qeSig := sig0, qeRaw := [4, 5], qeZero := false }
def col2 : Collateral := { col1 with pckCrl := some (1, 0, ⟨11, 2, [30, 300], 1000⟩), rootCrl := some ⟨10, 1, [20, 40], 1000⟩ }

deriving instance DecidableEq for Collateral   -- `fetch_levels` is decided

theorem chain0 : extractChain w0.chainPem = .ok ch0 := by decide +kernel

theorem call0 (o : Opts) : tdxQuote Fixes.all exCrypto w0 (some q0) o = finish Fixes.all exCrypto w0 o q0 ch0 ext0 :=
  tdxQuote_of_prepared rfl exCrypto o (by decide +kernel) chain0 Props.C13.cert0_extracts

theorem fetch_base : fetchStage Fixes.all w0 base ch0 ext0 = ([], .ok none) := rfl
/-- Both fetching levels in one check: the second call repeats the first before it fetches the CRLs, and within one check the
    kernel keeps what it has evaluated. -/
theorem fetch_levels :
    fetchStage Fixes.all w0 withCollateral ch0 ext0 = ([tcbInfoURL "50806f000000", qeIdentityURL], .ok (some col1)) ∧
    fetchStage Fixes.all w0 withRevocation ch0 ext0 =
      ([tcbInfoURL "50806f000000", qeIdentityURL, pckCrlURL verify_platformIssuerID, "https://crl.example/root.der"], .ok (some col2)) := by
  decide +kernel

theorem links0 : verifyQuoteLinks exCrypto q0 ch0.leaf = .ok () := by decide +kernel
theorem tcb0 (c : Collateral) (h1 : c.tcb = tcbDoc0) (h2 : c.qe = qeDoc0) : tcbStage Fixes.all q0 ext0 (some c) = .ok () := by
  simp only [tcbStage, h1, h2]
  decide +kernel

theorem sig0_unhex : unhex sig0 = some (List.replicate 64 0xaa) := by
  unfold sig0
  rw [unhex, String.toList_ofList]
  decide +kernel
theorem sig0_hex : isHex128 sig0 = some (List.replicate 64 0xaa) := by
  rw [isHex128, sig0_unhex]
  decide +kernel

/-- the world is accepted at every checking level … -/
theorem accepted_base : (tdxQuote Fixes.all exCrypto w0 (some q0) base).verdict = .ok () := by
  rw [call0, (finish_of_fetched fetch_base).1, verifyEvidence, links0]
  decide +kernel
theorem accepted_collateral : (tdxQuote Fixes.all exCrypto w0 (some q0) withCollateral).verdict = .ok () := by
  rw [call0, (finish_of_fetched fetch_levels.1).1, verifyEvidence, collateralStage_some (o := withCollateral) rfl, tcbInfoChecks,
    qeIdentityChecks, responseChecks.eq_def, responseChecks.eq_def, show col1.tcbSig = sig0 from rfl,
    show col1.qeSig = sig0 from rfl, sig0_hex, sig0_unhex, links0, tcb0 col1 rfl rfl]
  decide +kernel
theorem accepted_revocation : (tdxQuote Fixes.all exCrypto w0 (some q0) withRevocation).verdict = .ok () := by
  rw [call0, (finish_of_fetched fetch_levels.2).1, verifyEvidence, collateralStage_some (o := withRevocation) rfl, tcbInfoChecks,
    qeIdentityChecks, responseChecks.eq_def, responseChecks.eq_def, show col2.tcbSig = sig0 from rfl,
    show col2.qeSig = sig0 from rfl, sig0_hex, sig0_unhex, links0, tcb0 col2 rfl rfl]
  decide +kernel

/-- … fetching exactly the four documents, in order, when everything is checked -/
example : (tdxQuote Fixes.all exCrypto w0 (some q0) withRevocation).urls =
    [tcbInfoURL "50806f000000", qeIdentityURL, pckCrlURL verify_platformIssuerID, "https://crl.example/root.der"] := by
  rw [call0]; exact (finish_of_fetched fetch_levels.2).2
example : (tdxQuote Fixes.all exCrypto w0 (some q0) base).urls = [] := by rw [call0]; exact (finish_of_fetched fetch_base).2

end Tdx.Example
