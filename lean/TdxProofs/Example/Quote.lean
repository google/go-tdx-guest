/-
  The fully populated sample quote shared by the examples of C09 and by the witness world of the verification
  group (definitions only: the witness world needs nothing of the parser's theory).
-/
import TdxModel.AbiSpec

namespace Tdx.Props.C09
open Tdx.Abi

/-- a fully populated quote: distinct bytes in every field, 3 bytes of QE authentication data, a 5-byte certificate
    chain, 2 extra bytes -/
def sampleQuote : QuoteV4 :=
  ⟨some ⟨4, 2, 0x81, List.replicate 2 1, List.replicate 2 2, List.replicate 16 3, List.replicate 20 4⟩,
   some ⟨List.replicate 16 5, List.replicate 48 6, List.replicate 48 7, List.replicate 8 8, List.replicate 8 9,
         List.replicate 8 10, List.replicate 48 11, List.replicate 48 12, List.replicate 48 13, List.replicate 48 14,
         [List.replicate 48 15, List.replicate 48 16, List.replicate 48 17, List.replicate 48 18], List.replicate 64 19⟩,
   598,
   some ⟨List.replicate 64 20, List.replicate 64 21,
     some ⟨6, 464,
       some ⟨some ⟨List.replicate 16 22, 0x12345678, List.replicate 28 23, List.replicate 16 24, List.replicate 32 25,
                   List.replicate 32 26, List.replicate 32 27, List.replicate 96 28, 0x0102, 0x0304, List.replicate 60 29,
                   List.replicate 64 30⟩,
             List.replicate 64 31,
             some ⟨3, [32, 33, 34]⟩,
             some ⟨5, 5, [35, 36, 37, 38, 39]⟩⟩⟩⟩,
   [0xEE, 0xFF]⟩

/-- its wire form (1236 bytes) -/
def sampleBytes : Bytes :=
  match quoteToAbiBytes (some sampleQuote) with
  | .ok b => b
  | _ => []

end Tdx.Props.C09
