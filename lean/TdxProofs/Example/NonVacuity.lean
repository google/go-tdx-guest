/-
  Non-vacuity of the verification-group theorems: their hypotheses ("the call is accepted", "collateral /
  revocation checking is on") hold of the concrete world of `TdxProofs.Example.World`, so
  every one of the statements below says something about at least one real situation; likewise the hypotheses of the
  rejection theorems of C02, C05, C06 hold of that world with one thing wrong.  (That the *model* accepts
  this world is `accepted_*`, proved by kernel evaluation; that such worlds are what the real code accepts is the
  business of the correspondence runs.)
-/
import TdxProofs.Example.World
import TdxProofs.Props.C01
import TdxProofs.Props.C02
import TdxProofs.Props.C03
import TdxProofs.Props.C04
import TdxProofs.Props.C05
import TdxProofs.Props.C06
import TdxProofs.Props.C07
import TdxProofs.Props.C11
import TdxProofs.Props.C12

namespace Tdx.Example
open Tdx.Verify Tdx.Props

-- C01: the three links hold of the accepted example (at each level)
example := C01.accept_implies_links exCrypto w0 (some q0) base accepted_base
example := C01.accept_implies_links exCrypto w0 (some q0) withRevocation accepted_revocation
-- C02: its chain is anchored in the pool
example := C02.accept_implies_anchored exCrypto w0 (some q0) withCollateral accepted_collateral
-- C03: the collateral values used are the signed ones
example := C03.values_are_signed_values exCrypto w0 (some q0) withCollateral rfl accepted_collateral
-- C04: identity fields match, first matching platform level and module level UpToDate (TEE_TCB_SVN[1] = 1: module branch)
example := C04.accept_implies_tcb exCrypto w0 (some q0) withCollateral rfl accepted_collateral
-- C05: revocation checking on, nothing listed, CRLs authentic
example := C05.revocation_accept_implies exCrypto w0 (some q0) withRevocation rfl accepted_revocation
-- C06: every artifact in date at its own entry (here: the last instant of every window)
example := C06.accept_implies_in_date exCrypto w0 (some q0) withRevocation accepted_revocation
example := C06.accept_implies_in_date exCrypto w0 (some q0) withCollateral accepted_collateral
-- C07: QE identity matches (partial masks), first level with isvsvn ≤ 0x0304 is the second one, UpToDate
example := C07.accept_implies_qe_identity exCrypto w0 (some q0) withCollateral rfl accepted_collateral
-- C11: what an accepted call has of `Honest` (chain, PCK extension, fetched collateral, chain checks, links) holds of the example
example := C11.accepted_is_honest exCrypto w0 q0 withRevocation accepted_revocation
-- C12: the lattice premise is satisfiable; the conclusions are the two lower levels
example := C12.more_checks_never_accept_more exCrypto w0 (some q0) (some ⟨1000, 1000, 1000, 1000, 1000⟩) accepted_revocation
example : (tdxQuote Fixes.all exCrypto w0 (some q0) base).nowAfter = none := C12.options_unchanged ..


/-! ### the same world with one thing wrong is rejected, each time by the theorem that says why -/
-- C06: one instant after the last of the chain's validity
example : (tdxQuote Fixes.all exCrypto w0 (some q0) ⟨true, true, some ⟨1001, 1000, 1000, 1000, 1000⟩⟩).verdict ≠ .ok () :=
  C06.expired_chain_cert_rejected _ _ _ _ ch0 chain0 (.inl (by decide))
-- C05: a PCK CRL that lists the leaf's serial
example : (tdxQuote Fixes.all exCrypto { w0 with fetchPckCrl := fun _ => .resp (issuerHdr 1) (some ⟨11, 2, [3], 1000⟩) } (some q0) withRevocation).verdict ≠ .ok () :=
  C05.listed_leaf_rejected _ _ _ _ ch0 rfl chain0 fun _ _ _ h => by cases h; decide
-- C02: a pool that holds only the TCB signer, and no pool where the embedded root is not the chain's
example : (tdxQuote Fixes.all exCrypto { w0 with pool := some [3] } (some q0) base).verdict ≠ .ok () :=
  C02.foreign_root_rejected _ _ _ _ ch0 chain0 (by decide) (by decide) (by decide)
example : (tdxQuote Fixes.all exCrypto { w0 with pool := none } (some q0) base).verdict ≠ .ok () :=
  C02.foreign_root_rejected _ _ _ _ ch0 chain0 (by decide) (by decide) (by decide)

end Tdx.Example
