/-
  C20 — the retrying HTTPS getter returns the first success intact and makes no further attempt;
  between failed attempts it waits, never longer than MaxRetryDelay and never in a busy loop; when
  the wrapped getter keeps failing it gives up in bounded time.
  All theorems are about `Tdx.Retry.get c script tie fuel` for EVERY configuration
  `c` (Timeout, MaxRetryDelay : Int ns, possibly ≤ 0), every script of the wrapped getter (total
  functions `Nat → Call ρ`: finite and infinite behaviours), every resolution `tie` of the selects
  in which timer and deadline are ready together, every fuel, every payload type `ρ`.
-/
import TdxProofs.Lemmas.Retry

namespace Tdx.Props.C20
open Tdx.Retry

variable {ρ : Type}

/-- 2 · (initial delay) = 4 s: the first wait when the maximum allows it -/
def firstWait : Int := initialDelay + initialDelay

/-- the smallest wait of a configuration with a positive maximum -/
def minWait (c : Cfg) : Int := min firstWait c.maxDelay

/-- number of calls that suffices for every run of `c` when `0 < MaxRetryDelay` (computable) -/
def callBound (c : Cfg) : Nat := (max c.timeout 0 / minWait c).toNat + 1

theorem initialDelay_eq : initialDelay = 2000000000 := by decide
theorem firstWait_eq : firstWait = 4000000000 := by decide

/-! ### first success, intact, nothing after it -/

/-- If `Get` returns a response then it is, unchanged, the response of a successful call of the
    wrapped getter, and every earlier call failed: the FIRST success.  (`ρ` is abstract — the model
    has no operation on responses, so "intact" is the equality `some r = (script k).resp`.) -/
theorem returns_first_success_intact (c : Cfg) (script : Nat → Call ρ) (tie : Nat → Bool) (fuel : Nat)
    (k : Nat) (r : ρ) (t : Int) (h : (get c script tie fuel).res = .success k r t) :
    (script k).resp = some r ∧ ∀ i, i < k → (script i).resp = none := by
  obtain ⟨h1, h2⟩ := run_shape (get_runs c script tie fuel)
  rw [h] at h1 h2
  refine ⟨h2.2.1, fun i hi => (h1 i (Nat.zero_le _) (by omega)).resolve_right ?_⟩
  rintro ⟨_, _, he⟩
  cases he
  exact Nat.lt_irrefl _ hi

/-- The successful call is the last call: exactly k+1 calls were made (k waits between them) and
    `Get` returned at the moment that call ended. -/
theorem no_call_after_success (c : Cfg) (script : Nat → Call ρ) (tie : Nat → Bool) (fuel : Nat)
    (k : Nat) (r : ρ) (t : Int) (h : (get c script tie fuel).res = .success k r t) :
    (get c script tie fuel).calls.length = k + 1 ∧ (get c script tie fuel).waits.length = k ∧
    ∃ s, (get c script tie fuel).calls.getLast? = some s ∧ t = s + (script k).dur := by
  have h2 := (run_shape (get_runs c script tie fuel)).2
  rw [h] at h2
  exact ⟨by omega, by omega, h2.2.2.2⟩

/-- A success is never passed over: a timeout is reported only after calls that all failed, and not
    before the deadline. -/
theorem timeout_only_after_failures (c : Cfg) (script : Nat → Call ρ) (tie : Nat → Bool) (fuel : Nat)
    (n : Nat) (t : Int) (h : (get c script tie fuel).res = .timeout n t) :
    0 < n ∧ (get c script tie fuel).calls.length = n ∧ (∀ i, i < n → (script i).resp = none) ∧ c.timeout ≤ t := by
  obtain ⟨h1, h2⟩ := run_shape (get_runs c script tie fuel)
  rw [h] at h1 h2
  obtain ⟨hn, h0, s, -, rfl⟩ := h2
  exact ⟨h0, by omega, fun i hi => (h1 i (Nat.zero_le _) (by omega)).resolve_right nofun, Int.le_max_right ..⟩

/-- …and a run cut off by the fuel has seen only failures. -/
theorem out_of_fuel_only_after_failures (c : Cfg) (script : Nat → Call ρ) (tie : Nat → Bool) (fuel : Nat)
    (h : (get c script tie fuel).res = .outOfFuel) :
    (get c script tie fuel).calls.length = fuel ∧ ∀ i, i < fuel → (script i).resp = none := by
  obtain ⟨h1, h2⟩ := run_shape (get_runs c script tie fuel)
  rw [h] at h1 h2
  exact ⟨h2, fun i hi => (h1 i (Nat.zero_le _) (by omega)).resolve_right nofun⟩

/-! ### the waits -/

/-- the exact back-off: the i-th wait is `min (2^(i+2) s) Max` -/
theorem waits_exact (c : Cfg) (script : Nat → Call ρ) (tie : Nat → Bool) (fuel : Nat) (hm : 0 ≤ c.maxDelay)
    (i : Nat) (w : Int) (h : (get c script tie fuel).waits[i]? = some w) :
    w = min (2 ^ (i + 2) * 1000000000) c.maxDelay := by
  have := run_waits_exact hm (get_runs c script tie fuel) (by decide) i w h
  rw [this, initialDelay_eq, Int.pow_succ 2 (i + 1), Int.mul_assoc]
  rfl

theorem each_wait_le_max (c : Cfg) (script : Nat → Call ρ) (tie : Nat → Bool) (fuel : Nat)
    (hm : 0 ≤ c.maxDelay) : ∀ w ∈ (get c script tie fuel).waits, w ≤ c.maxDelay := by
  intro w hw
  obtain ⟨i, hi⟩ := List.mem_iff_getElem?.mp hw
  rw [waits_exact c script tie fuel hm i w hi]
  exact Int.min_le_right ..

/-- no busy loop: with a positive maximum every wait is at least `min (4 s) Max` -/
theorem no_busy_loop (c : Cfg) (script : Nat → Call ρ) (tie : Nat → Bool) (fuel : Nat)
    (hm : 0 < c.maxDelay) : ∀ w ∈ (get c script tie fuel).waits, min 4000000000 c.maxDelay ≤ w := by
  intro w hw
  obtain ⟨i, hi⟩ := List.mem_iff_getElem?.mp hw
  have h1 : (0 : Int) < 2 ^ i := Int.pow_pos (by decide)
  rw [waits_exact c script tie fuel (Int.le_of_lt hm) i w hi, Int.pow_add]
  omega

/-! ### bounded give-up -/

theorem minWait_pos (c : Cfg) (hm : 0 < c.maxDelay) : 0 < minWait c := by
  unfold minWait
  rw [firstWait_eq]
  omega

/-- Termination for a positive maximum: `fuel` calls are enough as soon as `fuel · minWait` exceeds
    the timeout (measure: time left to the deadline; every retry consumes at least `minWait`). -/
theorem terminates_of_lt (c : Cfg) (script : Nat → Call ρ) (tie : Nat → Bool) (fuel : Nat)
    (hm : 0 < c.maxDelay) (hf : max c.timeout 0 < (fuel : Int) * minWait c) :
    (get c script tie fuel).res ≠ .outOfFuel :=
  run_terminates (minWait_pos c hm) (Int.min_le_right ..) (get_runs c script tie fuel) (Int.min_le_left ..)
    (by rwa [Int.sub_zero])

/-- the computable bound: no run with `0 < Max` needs more than `callBound c` calls -/
theorem terminates (c : Cfg) (script : Nat → Call ρ) (tie : Nat → Bool) (fuel : Nat)
    (hm : 0 < c.maxDelay) (hf : callBound c ≤ fuel) : (get c script tie fuel).res ≠ .outOfFuel := by
  apply terminates_of_lt c script tie fuel hm
  have hp := minWait_pos c hm
  have h1 := Int.lt_ediv_add_one_mul_self (max c.timeout 0) hp
  have h2 : max c.timeout 0 / minWait c + 1 ≤ (fuel : Int) := by
    unfold callBound at hf
    omega
  exact Int.lt_of_lt_of_le h1 (Int.mul_le_mul_of_nonneg_right h2 (Int.le_of_lt hp))

/-- The time bound itself does not depend on the fuel: whenever a timeout is reported (positive
    maximum, calls no longer than `G`) it is reported by `max Timeout 0 + G`. -/
theorem timeout_time_le (c : Cfg) (script : Nat → Call ρ) (tie : Nat → Bool) (fuel : Nat) (G : Nat)
    (hm : 0 < c.maxDelay) (hG : ∀ k, (script k).dur ≤ G) (n : Nat) (t : Int)
    (h : (get c script tie fuel).res = .timeout n t) : t ≤ max c.timeout 0 + G :=
  run_timeout_le (minWait_pos c hm) (Int.min_le_right ..) G hG (get_runs c script tie fuel) (Int.min_le_left ..) n t h

/-- When the wrapped getter keeps failing and no call takes longer than `G`, `Get` (positive
    maximum, enough fuel) returns the timeout error, at or after the deadline and no later than
    `max Timeout 0 + G`. -/
theorem gives_up_in_bounded_time (c : Cfg) (script : Nat → Call ρ) (tie : Nat → Bool) (fuel : Nat) (G : Nat)
    (hm : 0 < c.maxDelay) (hfail : ∀ k, (script k).resp = none) (hG : ∀ k, (script k).dur ≤ G)
    (hf : callBound c ≤ fuel) :
    ∃ n t, (get c script tie fuel).res = .timeout n t ∧ c.timeout ≤ t ∧ t ≤ max c.timeout 0 + G := by
  cases hres : (get c script tie fuel).res with
  | success k r t =>
    have := (returns_first_success_intact c script tie fuel k r t hres).1
    rw [hfail k] at this; cases this
  | outOfFuel => exact absurd hres (terminates c script tie fuel hm hf)
  | timeout n t =>
    exact ⟨n, t, rfl, (timeout_only_after_failures c script tie fuel n t hres).2.2.2,
      timeout_time_le c script tie fuel G hm hG n t hres⟩

/-- …hence no later than "timeout plus one retry delay" when calls are no longer than the maximum -/
theorem gives_up_by_timeout_plus_max (c : Cfg) (script : Nat → Call ρ) (tie : Nat → Bool) (fuel : Nat)
    (hm : 0 < c.maxDelay) (hfail : ∀ k, (script k).resp = none) (hG : ∀ k, ((script k).dur : Int) ≤ c.maxDelay)
    (hf : callBound c ≤ fuel) :
    ∃ n t, (get c script tie fuel).res = .timeout n t ∧ t ≤ max c.timeout 0 + c.maxDelay := by
  obtain ⟨n, t, h1, _, h3⟩ := gives_up_in_bounded_time c script tie fuel c.maxDelay.toNat hm hfail
    (fun k => by have := hG k; omega) hf
  exact ⟨n, t, h1, by omega⟩

/-! ### F13 — `MaxRetryDelay ≤ 0 < Timeout`: unbounded attempts in zero virtual time (known finding) -/

/-- With `Max ≤ 0 < Timeout` and a getter that fails at once, for EVERY n, every tie resolution and
    every fuel n the run makes n calls, all at virtual time 0, all waits 0, and is still not
    finished: the loop never reaches the deadline. -/
theorem max_zero_spins_witness (c : Cfg) (hm : c.maxDelay ≤ 0) (ht : 0 < c.timeout)
    (script : Nat → Call ρ) (hs : ∀ k, (script k).dur = 0 ∧ (script k).resp = none)
    (tie : Nat → Bool) (n : Nat) :
    get c script tie n = ⟨List.replicate n 0, List.replicate n 0, .outOfFuel⟩ :=
  run_spin c script tie hm hs (Or.inl ht) n initialDelay 0

/-- …so no number of calls suffices (contrast `terminates`), and `no_busy_loop` fails at `Max = 0`:
    there are waits, and they are 0. -/
theorem max_zero_never_terminates (c : Cfg) (hm : c.maxDelay ≤ 0) (ht : 0 < c.timeout)
    (tie : Nat → Bool) (n : Nat) :
    (get c (fun _ => (⟨0, none⟩ : Call ρ)) tie n).res = .outOfFuel ∧
    (get c (fun _ => (⟨0, none⟩ : Call ρ)) tie n).calls.length = n ∧
    ∀ s ∈ (get c (fun _ => (⟨0, none⟩ : Call ρ)) tie n).calls, s = 0 := by
  rw [max_zero_spins_witness c hm ht _ (fun _ => ⟨rfl, rfl⟩) tie n]
  exact ⟨rfl, by simp, fun s hs => (List.mem_replicate.mp hs).2⟩

/-- The other face of F13: with `Max ≤ 0` and ANY timeout (also ≤ 0, i.e. a deadline that has passed
    from the start) the timer is always ready, every select at or after the deadline is a tie, and
    under the resolution "timer first" the loop never ends.  Go resolves such a select at random, so
    the real code makes a geometrically distributed number of extra attempts after the deadline:
    `gives_up_in_bounded_time` has no analogue for `Max ≤ 0`. -/
theorem max_zero_tie_spins_witness (c : Cfg) (hm : c.maxDelay ≤ 0)
    (script : Nat → Call ρ) (hs : ∀ k, (script k).dur = 0 ∧ (script k).resp = none) (n : Nat) :
    get c script (fun _ => true) n = ⟨List.replicate n 0, List.replicate n 0, .outOfFuel⟩ :=
  run_spin c script _ hm hs (Or.inr fun _ => rfl) n initialDelay 0

/-! ### non-vacuity -/

/-- always failing, instantly -/
def failFast : Nat → Call Nat := fun _ => ⟨0, none⟩

/-- The default configuration (Timeout 120 s, Max 30 s) against a getter that fails at once: calls at
    0, 4, 12, 28, 58, 88, 118 s, then the timeout error at 120 s. -/
theorem default_trace (tie : Nat → Bool) :
    get defaultCfg failFast tie 100 =
      ⟨[0, 4000000000, 12000000000, 28000000000, 58000000000, 88000000000, 118000000000],
       [4000000000, 8000000000, 16000000000, 30000000000, 30000000000, 30000000000],
       .timeout 7 120000000000⟩ := by
  rfl

example : callBound defaultCfg = 31 := by decide +kernel

/-- `gives_up_in_bounded_time`'s hypotheses hold for the default configuration and `failFast`
    (G = 0), and its conclusion is the trace above. -/
example : ∃ n t, (get defaultCfg failFast (fun _ => true) 100).res = .timeout n t ∧ defaultCfg.timeout ≤ t ∧
    t ≤ max defaultCfg.timeout 0 + (0 : Nat) :=
  gives_up_in_bounded_time defaultCfg failFast _ 100 0 (by decide) (fun _ => rfl) (fun _ => Nat.le_refl _) (by decide +kernel)

/-- three failures of 1 s each, then a success carrying the payload 77 -/
def threeThenOk : Nat → Call Nat := ofList [⟨1000000000, none⟩, ⟨1000000000, none⟩, ⟨1000000000, none⟩, ⟨1000000000, some 77⟩]

theorem success_trace (tie : Nat → Bool) :
    get defaultCfg threeThenOk tie 100 =
      ⟨[0, 5000000000, 14000000000, 31000000000], [4000000000, 8000000000, 16000000000],
       .success 3 77 32000000000⟩ := by
  rfl

/-- the hypothesis of `returns_first_success_intact` / `no_call_after_success` is satisfiable -/
example : (threeThenOk 3).resp = some 77 ∧ ∀ i, i < 3 → (threeThenOk i).resp = none :=
  returns_first_success_intact defaultCfg threeThenOk (fun _ => false) 100 3 77 32000000000 (by rw [success_trace])

/-- a tie: Timeout 8 s, Max 4 s — after the second failure (at 4 s) the 4 s timer and the 8 s
    deadline fire together; both resolutions give the timeout at 8 s, with 3 resp. 2 calls. -/
theorem tie_trace_timer :
    get ⟨8000000000, 4000000000⟩ failFast (fun _ => true) 100 =
      ⟨[0, 4000000000, 8000000000], [4000000000, 4000000000], .timeout 3 8000000000⟩ := by decide +kernel
theorem tie_trace_deadline :
    get ⟨8000000000, 4000000000⟩ failFast (fun _ => false) 100 =
      ⟨[0, 4000000000], [4000000000], .timeout 2 8000000000⟩ := by decide +kernel

/-- F13 on concrete numbers: Timeout 1 s, Max 0 — five calls at time 0 and still running -/
example : get ⟨1000000000, 0⟩ failFast (fun _ => false) 5 = ⟨[0, 0, 0, 0, 0], [0, 0, 0, 0, 0], .outOfFuel⟩ :=
  max_zero_spins_witness _ (by decide) (by decide) _ (fun _ => ⟨rfl, rfl⟩) _ 5

/-- Timeout 0, Max 0: the deadline-first resolution of the draw ends after one call, the timer-first one spins -/
example : get ⟨0, 0⟩ failFast (fun _ => false) 100 = ⟨[0], [], .timeout 1 0⟩ := by decide +kernel
example : get ⟨0, 0⟩ failFast (fun _ => true) 3 = ⟨[0, 0, 0], [0, 0, 0], .outOfFuel⟩ :=
  max_zero_tie_spins_witness _ (by decide) _ (fun _ => ⟨rfl, rfl⟩) 3

/-- Timeout ≤ 0: the context is done from the start; a positive maximum gives exactly one attempt -/
example (tie : Nat → Bool) : get ⟨0, 3000000000⟩ failFast tie 100 = ⟨[0], [], .timeout 1 0⟩ := by rfl

end Tdx.Props.C20
