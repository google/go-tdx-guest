/-
  C01 — accepted quotes are authentic: every link of the signature chain holds.
  `links_iff` reads `verifyQuoteLinks`; the rest projects it out of an accepting call (`Verify.tdxQuote_ok_iff`).
-/
import TdxProofs.Lemmas.Verify
import TdxProofs.Lemmas.AbiWire

namespace Tdx.Props.C01
open Tdx.Abi Tdx.Verify

/-! the parts of a quote message the signature chain covers -/

def attKey (q : QuoteV4) : Bytes := (q.signedData.getD default).ecdsaAttestationKey
def quoteSig (q : QuoteV4) : Bytes := (q.signedData.getD default).signature
def qeReport (q : QuoteV4) : Option EnclaveReport := ((qeCertData q).getD default).qeReport
def qeSig (q : QuoteV4) : Bytes := ((qeCertData q).getD default).qeReportSignature
def authData (q : QuoteV4) : Bytes := (((qeCertData q).getD default).qeAuthData.getD default).data
def qeReportData (q : QuoteV4) : Bytes := ((qeReport q).getD default).reportData

/-- the three links, declaratively -/
structure Links (C : Crypto) (q : QuoteV4) (leaf : Nat) : Prop where
  keySize : (attKey q).length = 64
  keyOnCurve : C.onCurve (attKey q) = true
  /-- header ‖ body (as re-serialised) verify under the attestation key carried in the quote -/
  quoteSigned : ∃ msg, signedMessage q = .ok msg ∧ C.verifyRaw (attKey q) msg (quoteSig q) = true
  /-- the QE report verifies under the leaf (PCK) certificate of the embedded chain -/
  qeSigned : ∃ rep, enclaveReportToAbiBytes (qeReport q) = .ok rep ∧ C.verifyCert leaf rep (qeSig q) = true
  /-- report data = SHA-256(attestation key ‖ QE auth data) followed by zeros -/
  hashBinding : qeReportData q =
    C.sha256 (attKey q ++ authData q) ++ zeros ((qeReportData q).length - (C.sha256 (attKey q ++ authData q)).length)

/-- `verifyQuote` succeeds exactly when the three links hold and the two signatures have the size of `r ‖ s` -/
theorem links_iff (C : Crypto) (q : QuoteV4) (leaf : Nat) :
    verifyQuoteLinks C q leaf = .ok () ↔ Links C q leaf ∧ (quoteSig q).length = 64 ∧ (qeSig q).length = 64 := by
  -- the last step: `make([]byte, len(reportData) - len(hash))` panics on a negative length, else the padded hash is compared
  have hbind : ∀ (rd h : Bytes), (if rd.length < h.length then Outcome.panic
      else runChecks [(h ++ zeros (rd.length - h.length) == rd, "report data hash binding")]) = .ok () ↔
      rd = h ++ zeros (rd.length - h.length) := by
    intro rd h
    split
    · refine ⟨nofun, fun e => ?_⟩
      have := congrArg List.length e
      simp only [List.length_append] at this
      omega
    · rw [runChecks_ok_iff]
      simp only [check_list]
      exact eq_comm
  -- `bind_ok_iff` at `Bytes` only: the `Unit` binds in front of the check lists are `runChecks_bind_ok_iff`'s
  unfold verifyQuoteLinks
  simp only [gen_const, check_list, runChecks_bind_ok_iff, bind_ok_iff (α := Bytes), hbind, signatureToDerOk]
  constructor
  · rintro ⟨a, b, c, msg, hm, d, rep, hr, e, f, g⟩
    exact ⟨⟨a, b, ⟨msg, hm, d⟩, ⟨rep, hr, f⟩, g⟩, c, e⟩
  · rintro ⟨⟨a, b, ⟨msg, hm, d⟩, ⟨rep, hr, f⟩, g⟩, c, e⟩
    exact ⟨a, b, c, msg, hm, d, rep, hr, e, f, g⟩

theorem links_of_ok (C : Crypto) (q : QuoteV4) (leaf : Nat) (h : verifyQuoteLinks C q leaf = .ok ()) : Links C q leaf :=
  ((links_iff C q leaf).mp h).1

/-- the report data are the last 64 of the 384 serialised report bytes -/
theorem report_bytes_reportData (r : Option EnclaveReport) (b : Bytes) (h : enclaveReportToAbiBytes r = .ok b) :
    (r.getD default).reportData = b.drop 320 :=
  (enclaveReportToAbiBytes_ok h).2

/-- **C01, main statement.** Verification succeeds only if all three links hold — for every world,
    every message, every option setting and every `Crypto`. -/
theorem accept_implies_links (C : Crypto) (w : World) (q : Option QuoteV4) (o : Opts)
    (h : (tdxQuote Fixes.all C w q o).verdict = .ok ()) :
    ∃ q' ch, q = some q' ∧ extractChain w.chainPem = .ok ch ∧ Links C q' ch.leaf := by
  obtain ⟨q', ch, ext, col, rfl, _, hch, _, _, hev⟩ := ((tdxQuote_ok_iff C w q o).mp h).witness
  exact ⟨q', ch, rfl, hch, links_of_ok C q' ch.leaf hev.links⟩

/-- With a 32-byte hash and the 64-byte report data the structural check guarantees, the binding reads
    literally "SHA-256(attestation key ‖ QE auth data) followed by 32 zero bytes". -/
theorem hash_binding_32_zero_bytes (C : Crypto) (hlen : ∀ b, (C.sha256 b).length = 32) (w : World) (q : Option QuoteV4) (o : Opts)
    (h : (tdxQuote Fixes.all C w q o).verdict = .ok ()) :
    ∃ q', q = some q' ∧ qeReportData q' = C.sha256 (attKey q' ++ authData q') ++ zeros 32 := by
  obtain ⟨q', ch, rfl, _, hl⟩ := accept_implies_links C w q o h
  obtain ⟨rep, hrep, _⟩ := hl.qeSigned
  have hrd : (qeReportData q').length = 64 := (enclaveReportToAbiBytes_ok hrep).1
  have hb := hl.hashBinding
  rw [hrd, hlen] at hb
  exact ⟨q', rfl, hb⟩

/-- For a quote parsed from bytes, the signed message is exactly bytes 0–631 of the input: the input is the
    wire form of what the parser returned, and the signed message is its first two pieces. -/
theorem signed_message_is_input_prefix (b : Bytes) (q : QuoteV4) (h : quoteToProto b = .ok q) :
    signedMessage q = .ok (b.take 632) := by
  obtain ⟨wf, rfl⟩ := wire_of_parse h
  exact signedMessage_eq wf.check

/-- What two accepted quotes with the same two signatures and the same certificate chain share, under the binding
    hypotheses spelled out at `no_covered_bit_changes` below: the QE report bytes, the attestation key, the QE auth data and
    the signed message.  Both keys are 64 bytes (`Links.keySize`), so equal key ‖ auth data splits into equal keys and equal
    auth data. -/
theorem covered_parts_equal (C : Crypto) (w : World) (o : Opts) (g q : QuoteV4)
    (hg : (tdxQuote Fixes.all C w (some g) o).verdict = .ok ())
    (hq : (tdxQuote Fixes.all C w (some q) o).verdict = .ok ())
    (sameSig : quoteSig q = quoteSig g) (sameQeSig : qeSig q = qeSig g)
    (qeBinds : ∀ leaf r r', C.verifyCert leaf r (qeSig g) = true → C.verifyCert leaf r' (qeSig g) = true → r = r')
    (sigBinds : ∀ k m m', C.verifyRaw k m (quoteSig g) = true → C.verifyRaw k m' (quoteSig g) = true → m = m')
    (noCollision : C.sha256 (attKey q ++ authData q) = C.sha256 (attKey g ++ authData g) →
        attKey q ++ authData q = attKey g ++ authData g)
    (hlen : ∀ b, (C.sha256 b).length = 32) :
    enclaveReportToAbiBytes (qeReport q) = enclaveReportToAbiBytes (qeReport g) ∧
    attKey q = attKey g ∧ authData q = authData g ∧ signedMessage q = signedMessage g := by
  obtain ⟨_, ch, ⟨⟩, hch, lg⟩ := accept_implies_links C w (some g) o hg
  obtain ⟨_, ch', ⟨⟩, hch', lq⟩ := accept_implies_links C w (some q) o hq
  cases hch.symm.trans hch'
  obtain ⟨rg, hrg, vg⟩ := lg.qeSigned
  obtain ⟨rq, hrq, vq⟩ := lq.qeSigned
  rw [sameQeSig] at vq
  cases qeBinds _ _ _ vq vg
  -- equal report bytes ⇒ equal report data ⇒ (both are hash ‖ zeros, the hashes of one size) equal hashes ⇒ equal key ‖ auth
  have hrd : qeReportData q = qeReportData g :=
    (report_bytes_reportData _ _ hrq).trans (report_bytes_reportData _ _ hrg).symm
  have bg := lg.hashBinding
  have bq := lq.hashBinding
  rw [hrd, hlen] at bq
  rw [hlen] at bg
  have hka := noCollision (List.append_cancel_right (bq.symm.trans bg))
  obtain ⟨hk, ha⟩ := List.append_inj hka (lq.keySize.trans lg.keySize.symm)
  obtain ⟨mg, hmg, vmg⟩ := lg.quoteSigned
  obtain ⟨mq, hmq, vmq⟩ := lq.quoteSigned
  rw [sameSig, hk] at vmq
  exact ⟨hrq.trans hrg.symm, hk, ha, by rw [hmq, hmg, sigBinds _ _ _ vmq vmg]⟩

/-- **The "consequently" clause**, relative to explicit binding hypotheses about the *given* genuine
    signatures (unforgeability itself is not a statement about this library): if, under the attestation
    key of a genuine accepted quote `g`, its signature verifies no message other than `g`'s own, and `g`'s
    QE-report signature verifies no report other than `g`'s under the leaf, and SHA-256 does not collide on
    the two key‖auth inputs at hand, then every accepted quote `q` that carries the same two signatures and
    the same certificate chain has the same QE report bytes, the same attestation key ‖ auth data and, once the
    attestation keys themselves are equal (they are 64 bytes each in an accepted quote), the same signed message. -/
theorem no_covered_bit_changes (C : Crypto) (w : World) (o : Opts) (g q : QuoteV4)
    (hg : (tdxQuote Fixes.all C w (some g) o).verdict = .ok ())
    (hq : (tdxQuote Fixes.all C w (some q) o).verdict = .ok ())
    (sameSig : quoteSig q = quoteSig g) (sameQeSig : qeSig q = qeSig g)
    (qeBinds : ∀ leaf r r', C.verifyCert leaf r (qeSig g) = true → C.verifyCert leaf r' (qeSig g) = true → r = r')
    (sigBinds : ∀ k m m', C.verifyRaw k m (quoteSig g) = true → C.verifyRaw k m' (quoteSig g) = true → m = m')
    (noCollision : C.sha256 (attKey q ++ authData q) = C.sha256 (attKey g ++ authData g) →
        attKey q ++ authData q = attKey g ++ authData g)
    (hlen : ∀ b, (C.sha256 b).length = 32) :
    enclaveReportToAbiBytes (qeReport q) = enclaveReportToAbiBytes (qeReport g) ∧
    attKey q ++ authData q = attKey g ++ authData g ∧
    (attKey q = attKey g → signedMessage q = signedMessage g) :=
  have h := covered_parts_equal C w o g q hg hq sameSig sameQeSig qeBinds sigBinds noCollision hlen
  ⟨h.1, by rw [h.2.1, h.2.2.1], fun _ => h.2.2.2⟩

/-! ### the hypotheses `hlen` and `sigBinds` are satisfiable: a toy `Crypto` -/

/-- signatures are "key ‖ message", the hash is the first 32 bytes of the zero-padded input.  It meets `hlen` and `sigBinds`
    (below) and nothing else: no call is accepted under it, since a 64-byte signature is never key ‖ message. -/
def toyCrypto : Crypto :=
  { onCurve := fun _ => true
    verifyRaw := fun k m s => s == k ++ m
    verifyCert := fun i m s => s == [UInt8.ofNat i] ++ m
    sha256 := fun b => (b ++ zeros 32).take 32 }

example : ∀ b, (toyCrypto.sha256 b).length = 32 := by intro b; simp [toyCrypto, zeros]
example (k m m' s : Bytes) (h1 : toyCrypto.verifyRaw k m s = true) (h2 : toyCrypto.verifyRaw k m' s = true) : m = m' := by
  simp only [toyCrypto, beq_iff_eq] at h1 h2
  rw [h1] at h2
  exact List.append_cancel_left h2

end Tdx.Props.C01
