/-
  C11 — every honestly produced, in-date quote is accepted at every checking level.
  Together with C01–C07 this pins the verdict from both sides.
-/
import TdxProofs.Props.C01
import TdxProofs.Props.C04
import TdxProofs.Props.C07

namespace Tdx.Props.C11
open Tdx.Abi Tdx.Verify

theorem links_imply_ok (C : Crypto) (q : QuoteV4) (leaf : Nat) (hsig : (C01.quoteSig q).length = 64) (hqsig : (C01.qeSig q).length = 64)
    (h : C01.Links C q leaf) : verifyQuoteLinks C q leaf = .ok () :=
  (C01.links_iff C q leaf).mpr ⟨h, hsig, hqsig⟩

/-- an honest world: every clause the statement lists, declaratively (no reference to the order of evaluation) -/
structure Honest (C : Crypto) (w : World) (q : QuoteV4) (o : Opts) (ch : Chain) (ext : PckExt.PckExtensions)
    (col : Option Collateral) : Prop where
  /-- produced the way the platform produces it: structurally valid, any field contents, any auth-data length -/
  wellFormed : checkQuoteV4 (some q) = .ok ()
  chainExtracted : extractChain w.chainPem = .ok ch           -- three CERTIFICATE blocks, optional NUL
  sgx : PckExt.pckCertificateExtensions (cert w ch.leaf).pck = .ok ext
  fetched : Fetched w o ch ext col
  /-- chain in date, rooted in the trusted pool, not revoked (when checked) -/
  chain : ChainOk w ch o (o.now.getD (defaultTimeSet w.clock)) col
  /-- the three signature links -/
  links : C01.Links C q ch.leaf
  /-- matching, in-date, UpToDate signed collateral -/
  collateral : o.getCollateral = true → ∃ (c : Collateral) (t : TdQuoteBody) (h2 : 2 ≤ t.teeTcbSvn.length), col = some c ∧ q.tdQuoteBody = some t ∧
    c.tcbZero = false ∧ c.qeZero = false ∧
    CollateralInDate w o (o.now.getD (defaultTimeSet w.clock)) c ∧
    TcbInfoOk C w o (o.now.getD (defaultTimeSet w.clock)) c ∧ QeIdentityOk C w o (o.now.getD (defaultTimeSet w.clock)) c ∧
    C04.IdentityMatches c.tcb t ext ∧ C04.TcbUpToDate c.tcb t.teeTcbSvn ext.tcb.pcesvn ext.tcb.comps h2 ∧
    C07.QeMatches c.qe (((qeCertData q).getD default).qeReport.getD default)

/-- Acceptance is honesty.  Right to left is the main statement of C11; left to right says that `Honest` lists nothing an
    accepting call does not establish. -/
theorem accepted_iff_honest (C : Crypto) (w : World) (q : QuoteV4) (o : Opts) :
    (tdxQuote Fixes.all C w (some q) o).verdict = .ok () ↔ ∃ ch ext col, Honest C w q o ch ext col := by
  rw [tdxQuote_ok_iff]
  constructor
  · rintro ⟨q', ch, ext, col, ⟨⟩, hc, hch, hext, hf, hev⟩
    refine ⟨ch, ext, col, hc, hch, hext, hf, chainChecks_all _ _ _ _ _ hev.chain, C01.links_of_ok C q ch.leaf hev.links, fun hg => ?_⟩
    obtain ⟨_, c, rfl, _, _, ⟨z1, z2⟩, d, ti, qi⟩ := hev.collateralOk hf hg
    have h2 := teeTcbSvn_two_le hc
    obtain ⟨im, tu⟩ := (C04.tcb_accept_iff c.tcb q.body ext h2).mp (hev.tcb c rfl).1
    exact ⟨c, q.body, h2, rfl, (checked hc).present.body, z1, z2, d, ti, qi, im, tu, (C07.qe_accept_iff _ _).mp (hev.tcb c rfl).2⟩
  · rintro ⟨ch, ext, col, h⟩
    refine ⟨q, ch, ext, col, rfl, h.wellFormed, h.chainExtracted, h.sgx, h.fetched, ?_⟩
    have hk := checked h.wellFormed
    have hp := hk.present
    have hqsig : (C01.qeSig q).length = 64 := by
      simpa [C01.qeSig, qeCertData, hp.signed, hp.cert, hp.qeCert] using hk.qeSigLen
    refine ⟨by rw [hp.header]; exact (checkHeader_ok_iff.mp hk.header).2.2.1, chainChecks_iff.mpr h.chain, ?_,
      links_imply_ok C q ch.leaf hk.sigLen hqsig h.links, ?_⟩
    · intro hg
      obtain ⟨c, t, h2, rfl, _, z1, z2, d, ti, qi, _⟩ := h.collateral hg
      exact ⟨c, rfl, collateralChecks_iff.mpr ⟨⟨z1, z2⟩, d⟩, tcbInfoChecks_iff.mpr ti, qeIdentityChecks_iff.mpr qi⟩
    · rintro c rfl
      have hg : o.getCollateral = true := h.fetched.elim (fun ⟨_, hn⟩ => nomatch hn) (·.1)
      obtain ⟨_, t, h2, ⟨⟩, et, _, _, _, _, _, im, tu, qm⟩ := h.collateral hg
      rw [et]
      exact ⟨(C04.tcb_accept_iff c.tcb t ext h2).mpr ⟨im, tu⟩, (C07.qe_accept_iff _ _).mpr qm⟩

/-- **C11, main statement** — at every checking level (the option values are arbitrary). -/
theorem honest_accepted (C : Crypto) (w : World) (q : QuoteV4) (o : Opts) (ch : Chain) (ext : PckExt.PckExtensions)
    (col : Option Collateral) (h : Honest C w q o ch ext col) : (tdxQuote Fixes.all C w (some q) o).verdict = .ok () :=
  (accepted_iff_honest C w q o).mpr ⟨ch, ext, col, h⟩

/-- the three levels named in the statement are instances: without collateral … -/
theorem honest_accepted_base (C : Crypto) (w : World) (q : QuoteV4) (now : Option TimeSet) (ch : Chain)
    (ext : PckExt.PckExtensions) (h : Honest C w q ⟨false, false, now⟩ ch ext none) :
    (tdxQuote Fixes.all C w (some q) ⟨false, false, now⟩).verdict = .ok () := honest_accepted C w q _ ch ext none h

/-- … with collateral checking, and with revocation checking -/
theorem honest_accepted_collateral (C : Crypto) (w : World) (q : QuoteV4) (now : Option TimeSet) (cr : Bool) (ch : Chain)
    (ext : PckExt.PckExtensions) (c : Collateral) (h : Honest C w q ⟨cr, true, now⟩ ch ext (some c)) :
    (tdxQuote Fixes.all C w (some q) ⟨cr, true, now⟩).verdict = .ok () := honest_accepted C w q _ ch ext (some c) h

/-- conversely, an accepted call has the chain, PCK extension, fetched collateral, chain checks and links that `Honest` lists
    (its `wellFormed` and `collateral` clauses are not restated here) -/
theorem accepted_is_honest (C : Crypto) (w : World) (q : QuoteV4) (o : Opts)
    (h : (tdxQuote Fixes.all C w (some q) o).verdict = .ok ()) :
    ∃ ch ext col, extractChain w.chainPem = .ok ch ∧ PckExt.pckCertificateExtensions (cert w ch.leaf).pck = .ok ext ∧
      Fetched w o ch ext col ∧ ChainOk w ch o (o.now.getD (defaultTimeSet w.clock)) col ∧ C01.Links C q ch.leaf := by
  obtain ⟨ch, ext, col, a⟩ := (accepted_iff_honest C w q o).mp h
  exact ⟨ch, ext, col, a.chainExtracted, a.sgx, a.fetched, a.chain, a.links⟩

end Tdx.Props.C11
