/-
  C17 — RTMR extension writes exactly the requested digest to the requested register.
  One request is `Rtmr.lib_spec` (TdxProofs/Lemmas/Rtmr.lean); histories go by induction with the invariant `WellFormed`.

  Every theorem holds for EVERY hash function `H` (only `H.len : |sha384 b| = 48` is known), every request and every
  request history, and every TSM state that is `WellFormed` (as every state reached from `init` is).
-/
import TdxModel.Generated.Consts
import TdxProofs.Lemmas.Rtmr

namespace Tdx.Props.C17
open Tdx.Rtmr

/-! ### ties of the inline literals of extend.go to regenerated constants -/

/-- the digest length demanded by extend.go is the RTMR size of the quote layout -/
theorem digestLen_is_rtmr_size : digestLen = Gen.abi_RtmrSize := rfl

/-- the accepted index range 0–3 is exactly the number of RTMRs of the quote layout -/
theorem index_range_is_rtmr_count : maxIndex + 1 = (Gen.abi_rtmrsCount : Int) := by decide

/-! ### invalid requests -/

/-- An extend request with an index outside 0–3, a digest that is not 48 bytes, a hash algorithm other
    than SHA-384 or an empty event log fails, performs no operation on the client, and leaves the TSM
    as it was. -/
theorem invalid_request_touches_nothing (H : Hash) (t : Tsm) (r : Req) (h : ¬ Valid r) :
    (step H t r).trace = [] ∧ (∃ e, (step H t r).out = .err e) ∧ (step H t r).tsm = t := by
  obtain ⟨e, he⟩ := step_invalid H t h
  rw [he]
  exact ⟨rfl, ⟨e, rfl⟩, rfl⟩

/-! ### valid requests -/

/-- A valid request succeeds and results in exactly one digest write, of exactly the given digest (or
    the SHA-384 of the given event log), to an entry that is bound to the requested index; register
    `index` is extended by it and no other register changes; the entry is the existing one when one was
    bound (nothing created, nothing bound), and otherwise one new entry is created with one `MkdirTemp`
    and bound with one index write, all existing entries being kept (`ExtendEffect`, TdxModel/Rtmr.lean).
    The TSM stays well formed. -/
theorem valid_request_one_extend (H : Hash) (t : Tsm) (r : Req) (hv : Valid r) (wf : WellFormed t) :
    ExtendEffect H t r.index.toNat (r.digestOf H) (step H t r) := by
  rw [step_valid H t hv]
  exact lib_spec H t wf hv.index_range.1 hv.index_range.2 (hv.digest_length H)

/-- … in particular: exactly one digest write, of the requested digest. -/
theorem valid_request_writes_requested_digest (H : Hash) (t : Tsm) (r : Req) (hv : Valid r) (wf : WellFormed t) :
    ∃ nm, digestWrites (step H t r).trace = [(nm, r.digestOf H)] := by
  obtain ⟨nm, _, _, _, h, _⟩ := (valid_request_one_extend H t r hv wf).target
  exact ⟨nm, h⟩

/-- … and an entry is created if and only if none was bound to the index. -/
theorem entry_created_iff_none_bound (H : Hash) (t : Tsm) (r : Req) (hv : Valid r) (wf : WellFormed t) :
    mkdirs (step H t r).trace ≠ [] ↔ ¬ t.hasBound r.index.toNat := by
  obtain ⟨nm, e', _, _, _, hre, hcr⟩ := (valid_request_one_extend H t r hv wf).target
  constructor
  · intro hm hb
    exact hm (hre hb).2.2.1
  · intro hb hm
    rw [(hcr hb).2.1] at hm
    cases hm

/-- … and afterwards an entry is bound to the requested index. -/
theorem valid_request_binds (H : Hash) (t : Tsm) (r : Req) (hv : Valid r) (wf : WellFormed t) :
    (step H t r).tsm.hasBound r.index.toNat := by
  obtain ⟨nm, e', hl, hb, _⟩ := (valid_request_one_extend H t r hv wf).target
  exact ⟨e', List.mem_of_find?_eq_some hl, hb⟩

/-- No request removes or unbinds an entry: an index that has an entry keeps it (so later requests
    re-use it). -/
theorem bound_entries_persist (H : Hash) (t : Tsm) (r : Req) (wf : WellFormed t) (j : Nat)
    (h : t.hasBound j) : (step H t r).tsm.hasBound j := by
  by_cases hv : Valid r
  · obtain ⟨nm, e', _, _, _, hre, hcr⟩ := (valid_request_one_extend H t r hv wf).target
    by_cases hb : t.hasBound r.index.toNat
    · unfold Tsm.hasBound
      rw [(hre hb).2.1]
      exact h
    · obtain ⟨e, he, hbe⟩ := h
      exact ⟨e, (hcr hb).2.2.2.2 e he, hbe⟩
  · rw [(invalid_request_touches_nothing H t r hv).2.2]; exact h

/-! ### the invariant -/

theorem wellFormed_init : WellFormed init :=
  ⟨List.Pairwise.nil, (fun _ h => by cases h), List.Pairwise.nil⟩

/-- every request, valid or not, preserves well-formedness -/
theorem wellFormed_step (H : Hash) (t : Tsm) (r : Req) (wf : WellFormed t) : WellFormed (step H t r).tsm := by
  by_cases hv : Valid r
  · exact (valid_request_one_extend H t r hv wf).wf
  · rw [(invalid_request_touches_nothing H t r hv).2.2]; exact wf

theorem wellFormed_run (H : Hash) (t : Tsm) (rs : List Req) (wf : WellFormed t) : WellFormed (run H t rs) := by
  induction rs generalizing t with
  | nil => exact wf
  | cons r rs ih => exact ih _ (wellFormed_step H t r wf)

theorem wellFormed_at_most_one (t : Tsm) (wf : WellFormed t) (j : Nat) :
    (t.entries.filter fun e => e.bound == some j).length ≤ 1 := by
  have hp := wf.onePerIndex.sublist (List.filter_sublist (p := fun e => e.bound == some j))
  have hb : ∀ e ∈ t.entries.filter (fun e => e.bound == some j), e.bound = some j := fun e he =>
    eq_of_beq (List.mem_filter.mp he).2
  generalize t.entries.filter _ = l at hp hb
  match l, hp, hb with
  | [], _, _ => exact Nat.zero_le _
  | [_], _, _ => exact Nat.le_refl _
  | a :: b :: _, hp, hb =>
    exact absurd (hb b (by simp)) ((List.pairwise_cons.mp hp).1 b (by simp) j (hb a (by simp)))

/-- Invariant: after any history of requests (valid or not) from any well-formed TSM — in particular
    from the initial one — at most one entry is bound to each index. -/
theorem at_most_one_entry_per_index (H : Hash) (t : Tsm) (wf : WellFormed t) (rs : List Req) (j : Nat) :
    ((run H t rs).entries.filter fun e => e.bound == some j).length ≤ 1 :=
  wellFormed_at_most_one _ (wellFormed_run H t rs wf) j

/-! ### registers are extend chains -/

/-- one request changes register `k` exactly when it is valid and addressed to `k` -/
theorem step_register (H : Hash) (t : Tsm) (r : Req) (wf : WellFormed t) (k : Nat) :
    (step H t r).tsm.regs k =
      if Valid r ∧ r.index = (k : Int) then extend H (t.regs k) (r.digestOf H) else t.regs k := by
  by_cases hv : Valid r
  · have h0 := hv.index_range.1
    rw [(valid_request_one_extend H t r hv wf).regs k]
    by_cases hk : k = r.index.toNat
    · rw [if_pos hk, if_pos ⟨hv, by omega⟩, hk]
    · rw [if_neg hk, if_neg fun h => hk (by omega)]
  · rw [(invalid_request_touches_nothing H t r hv).2.2, if_neg fun h => hv h.1]

/-- Over ANY history `rs` from any well-formed TSM, register `i` equals the extend chain, from its
    initial value, of the digests of the valid requests for index `i`, in call order. -/
theorem registers_are_extend_chains_from (H : Hash) (t : Tsm) (wf : WellFormed t) (rs : List Req) (i : Nat) :
    (run H t rs).regs i = (acceptedDigests H i rs).foldl (extend H) (t.regs i) := by
  induction rs generalizing t with
  | nil => rfl
  | cons r rs ih =>
    show (run H (step H t r).tsm rs).regs i = _
    rw [ih _ (wellFormed_step H t r wf), step_register H t r wf i]
    simp only [acceptedDigests, List.filter_cons, Bool.and_eq_true, decide_eq_true_eq]
    split <;> rfl

/-- From a freshly booted TSM: register `i` = SHA-384 extend chain from 48 zero bytes of the accepted
    digests for index `i`, in call order. -/
theorem registers_are_extend_chains (H : Hash) (rs : List Req) (i : Nat) :
    (run H init rs).regs i = (acceptedDigests H i rs).foldl (extend H) zero48 :=
  registers_are_extend_chains_from H init wellFormed_init rs i

/-- every register always holds 48 bytes -/
theorem register_length (H : Hash) (rs : List Req) (i : Nat) : ((run H init rs).regs i).length = 48 := by
  rw [registers_are_extend_chains]
  -- the chain is empty, or its value is what the last `extend` returned
  rcases List.eq_nil_or_concat (acceptedDigests H i rs) with h | ⟨l, d, h⟩
  · rw [h]
    rfl
  · rw [h, List.concat_eq_append, List.foldl_append]
    exact H.len _

/-! ### non-vacuity: a concrete three-request history (for every hash function) -/

/-- extend register 2 by 48 zero bytes; extend register 2 by the hash of a one-byte log; a request for
    index 4 (invalid) -/
def hist : List Req := [.digest 2 (zeros 48), .eventLog 2 sha384Code [1], .digest 4 (zeros 48)]

example : Valid (.digest 2 (zeros 48)) := by decide
example : Valid (.eventLog 2 sha384Code [1]) := by decide
example : ¬ Valid (.digest 4 (zeros 48)) := by decide
example : ¬ Valid (.digest 2 (zeros 47)) := by decide
example : ¬ Valid (.eventLog 2 5 [1]) := by decide
example : ¬ Valid (.eventLog 2 sha384Code []) := by decide
example : WellFormed init := wellFormed_init

/-- the first request creates and binds an entry, then writes the digest once -/
example (H : Hash) : (step H init (.digest 2 (zeros 48))).trace =
    [.readDir, .mkdirTemp 2, .writeFile (.temp 2 0) .index [50], .writeFile (.temp 2 0) .digest (zeros 48)] := rfl

/-- the TSM after it: one entry, bound to 2 (`index` holds "2"), register 2 extended once -/
def afterFirst (H : Hash) : Tsm :=
  { entries := [{ name := .temp 2 0, isDir := true, index := some [50] }],
    regs := fun k => if k = 2 then extend H (init.regs 2) (zeros 48) else init.regs k,
    next := 1 }

example (H : Hash) : (step H init (.digest 2 (zeros 48))).tsm = afterFirst H := rfl

/-- the second request finds and re-uses that entry -/
example (H : Hash) : (step H (afterFirst H) (.eventLog 2 sha384Code [1])).trace =
    [.readDir, .readFile (.temp 2 0) .index, .writeFile (.temp 2 0) .digest (H.sha384 [1])] := by
  have hl : (H.sha384 [1]).length = digestLen := H.len _
  have hs : search 2 (afterFirst H).entries =
      ([Op.readFile (.temp 2 0) .index], some { name := .temp 2 0, isDir := true, index := some [50] }) := rfl
  have hk : (afterFirst H).lookup (.temp 2 0) = some { name := .temp 2 0, isDir := true, index := some [50] } := rfl
  have hb : Entry.bound { name := .temp 2 0, isDir := true, index := some [50] } = some 2 := by decide
  simp [step, extendEventLogClient, extendDigestClient, libExtendDigest, hl, maxIndex, hs, Tsm.writeDigest, hk, hb]

/-- the third touches nothing -/
example (H : Hash) (t : Tsm) : (step H t (.digest 4 (zeros 48))).trace = [] :=
  (invalid_request_touches_nothing H t _ (by decide)).1

/-- after the history register 2 is the two-step chain, register 3 is untouched, and an entry is bound to index 2 -/
example (H : Hash) : (run H init hist).regs 2 = H.sha384 (H.sha384 (zero48 ++ zeros 48) ++ H.sha384 [1]) := by
  rw [registers_are_extend_chains]; rfl
example (H : Hash) : (run H init hist).regs 3 = zero48 := by
  rw [registers_are_extend_chains]; rfl
example (H : Hash) : (run H init hist).hasBound 2 ∧ ¬ init.hasBound 2 := by
  refine ⟨?_, fun ⟨e, h, _⟩ => by cases h⟩
  have w1 := wellFormed_step H init (.digest 2 (zeros 48)) wellFormed_init
  have w2 := wellFormed_step H _ (.eventLog 2 sha384Code [1]) w1
  exact bound_entries_persist H _ _ w2 2
    (bound_entries_persist H _ _ w1 2 (valid_request_binds H init (.digest 2 (zeros 48)) (by decide) wellFormed_init))

end Tdx.Props.C17
