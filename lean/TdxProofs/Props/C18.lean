/-
  C18 — an event log is returned only behind both gates and a matching RTMR replay.
-/
import TdxProofs.Lemmas.Ccel

namespace Tdx.Props.C18
open Tdx.Abi Tdx.Ccel

variable {State : Type}

/-- **C18, main statement.** A state is returned (alone or next to an error) only if the quote passes verification,
    passes validation, the bank could be built, and replaying the log against that bank produced exactly this state. -/
theorem state_implies_gates (verify validate : Outcome Unit) (q : Option QuoteV4) (replay : Bank → Outcome (GoRet State))
    (r : GoRet State) (st : State) (h : parseCcel verify validate q replay = .ok r) (hs : r.state = some st) :
    verify = .ok () ∧ validate = .ok () ∧ ∃ bank, getRtmrs true q = .ok bank ∧ replay bank = .ok r := by
  rw [parseCcel_eq] at h
  split at h
  · cases h
    cases hs
  · obtain ⟨hv, h⟩ := bind_unit_ok_iff.mp h
    obtain ⟨hva, h⟩ := bind_unit_ok_iff.mp h
    exact ⟨hv, hva, bind_ok_iff.mp h⟩

/-- and conversely: with both gates passed the result is exactly the pair the replay hands back -/
theorem gates_passed (q : Option QuoteV4) (replay : Bank → Outcome (GoRet State)) (bank : Bank) (r : GoRet State)
    (hb : getRtmrs true q = .ok bank) (hr : replay bank = .ok r) :
    parseCcel (.ok ()) (.ok ()) q replay = .ok r := by
  unfold parseCcel
  simp [hb, hr]

/-- if either gate fails the call returns that gate's error and no state -/
theorem failure_returns_no_state (verify validate : Outcome Unit) (q : Option QuoteV4) (replay : Bank → Outcome (GoRet State))
    (h : (∃ e, verify = .err e) ∨ (verify = .ok () ∧ ∃ e, validate = .err e)) :
    ∃ e, parseCcel verify validate q replay = .ok ⟨none, some e⟩ := by
  rcases h with ⟨e, rfl⟩ | ⟨rfl, e, rfl⟩ <;> exact ⟨e, rfl⟩

/-- whichever way a gate fails (first or second), no result of the call carries a state -/
theorem failed_gate_never_yields_state (verify validate : Outcome Unit) (q : Option QuoteV4) (replay : Bank → Outcome (GoRet State))
    (h : (∃ e, verify = .err e) ∨ (∃ e, validate = .err e)) (r : GoRet State)
    (hr : parseCcel verify validate q replay = .ok r) : r.state = none := by
  cases hs : r.state with
  | none => rfl
  | some st =>
    obtain ⟨a, b, _⟩ := state_implies_gates verify validate q replay r st hr hs
    rcases h with ⟨e, rfl⟩ | ⟨e, rfl⟩
    · cases a
    · cases b

/-- a replay that yields no state (e.g. an RTMR value that does not match the log) yields none here: the state comes only
    from the replay -/
theorem replay_mismatch_returns_no_state (verify validate : Outcome Unit) (q : Option QuoteV4) (replay : Bank → Outcome (GoRet State))
    (hrp : ∀ bank r, replay bank = .ok r → r.state = none) (r : GoRet State)
    (hr : parseCcel verify validate q replay = .ok r) : r.state = none := by
  cases hs : r.state with
  | none => rfl
  | some st =>
    obtain ⟨_, _, bank, _, hb⟩ := state_implies_gates verify validate q replay r st hr hs
    rw [hrp bank r hb] at hs; cases hs

/-- the call never invents an outcome: without a crash of a gate or of the replay it does not crash -/
theorem parse_panics_only_if_part_does (verify validate : Outcome Unit) (q : Option QuoteV4) (replay : Bank → Outcome (GoRet State))
    (hv : verify ≠ .panic) (hva : validate ≠ .panic) (hrp : ∀ bank, replay bank ≠ .panic) (hq : getRtmrs true q ≠ .panic) :
    parseCcel verify validate q replay ≠ .panic := by
  rw [parseCcel_eq]
  split
  · nofun
  · exact bind_ne_panic hv fun _ _ => bind_ne_panic hva fun _ _ => bind_ne_panic hq fun bank _ => hrp bank

/-- RTMR i of the quote becomes register index i of the replay bank; at most four -/
theorem bank_is_quote_rtmrs (q : QuoteV4) (t : TdQuoteBody) (bank : Bank) (ht : q.tdQuoteBody = some t)
    (h : getRtmrs true (some q) = .ok bank) :
    bank.length = t.rtmrs.length ∧ bank.length ≤ 4 ∧
    ∀ j (h1 : j < bank.length) (h2 : j < t.rtmrs.length), bank[j] = (j, t.rtmrs[j]) := by
  unfold getRtmrs at h
  simp only [ht, bankLoop_eq 0 (by decide)] at h
  split at h
  · cases h
    have hl : ((List.range' 0 t.rtmrs.length).zip t.rtmrs).length = t.rtmrs.length := by simp
    exact ⟨hl, by omega, fun j h1 h2 => by simp⟩
  · cases h

/-- more than four RTMRs is an error -/
theorem five_rtmrs_is_error (rs : List Bytes) (h : 4 < rs.length) : ∃ e, bankLoop 0 rs = .err e :=
  ⟨_, (bankLoop_eq 0 (by decide) rs).trans (if_neg (by omega))⟩

/-- `GetRtmrsFromTdQuote` never crashes, for every message (absent TD body, any number of RTMRs of any length) -/
theorem getRtmrs_never_panics (q : Option QuoteV4) : getRtmrs true q ≠ .panic := by
  unfold getRtmrs
  split
  · simp
  · split
    · simp
    · exact bankLoop_ne_panic 0 _

/-! ### the pinned tree (finding F12): nil TD body dereferenced -/
theorem unfixed_witness_nil_body : getRtmrs false (some { (default : QuoteV4) with tdQuoteBody := none }) = .panic :=
  rfl

/-! ### non-vacuity -/
example : parseCcel (State := Nat) (.ok ()) (.ok ()) (some default) (fun _ => .ok ⟨some 7, some "no GRUB measurements found"⟩)
    = .ok ⟨some 7, some "no GRUB measurements found"⟩ := rfl
example : parseCcel (State := Nat) (.ok ()) (.err "policy") (some default) (fun _ => .ok ⟨some 7, none⟩) = .ok ⟨none, some "policy"⟩ := rfl
example : getRtmrs true (some { (default : QuoteV4) with tdQuoteBody := some { (default : TdQuoteBody) with rtmrs := [[1], [2], [3], [4]] } })
    = .ok [(0, [1]), (1, [2]), (2, [3]), (3, [4])] := rfl

end Tdx.Props.C18
