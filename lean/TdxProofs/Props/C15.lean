/-
  C15 — the guest client relays device data exactly; every device failure is an error.
  The statements about the result are readings of `Client.result_decides`.
-/
import TdxProofs.Lemmas.Client

namespace Tdx.Props.C15
open Tdx.Client

/-- a device script is well formed when it leaves arrays of the ABI's sizes behind -/
structure WF (s : DevScript) : Prop where
  report_len : s.report.length = repSize
  buf_len : ∀ b, s.buf = some b → b.length = reqBuf

/-- The report request always carries exactly the caller's report data. -/
theorem report_request_carries_data (s : DevScript) (rd : Bytes) :
    (getRawQuoteViaDevice s rd).2.reportReq = some rd := rfl

/-- The quote request is issued exactly when the report request succeeded (no error, result 0), and
    it is then the request built from the TD report the device returned. -/
theorem quote_request_spec (s : DevScript) (rd : Bytes) :
    (getRawQuoteViaDevice s rd).2.quoteReq =
      if s.repErr = false ∧ s.repRes = 0 then some (quoteReqOf s.report) else none := by
  show (trace s rd).quoteReq = _
  unfold trace
  rcases (getReport_decides s).cases with ⟨c, h⟩ | ⟨c, e, h⟩
  · rw [h, if_pos c]
  · rw [h, if_neg c]

/-- …and that request carries the TD report in its first `TdReportSize` bytes, `InLen = TdReportSize`,
    `Length = ReqBufSize`, in a `ReqBufSize`-byte buffer. -/
theorem quote_request_carries_report (r : Bytes) (h : r.length = repSize) :
    (quoteReqOf r).data.take repSize = r ∧ (quoteReqOf r).inLen = repSize ∧
    (quoteReqOf r).length = reqBuf ∧ (quoteReqOf r).data.length = reqBuf ∧
    (quoteReqOf r).version = 1 ∧ (quoteReqOf r).status = 0 ∧ (quoteReqOf r).outLen = 0 := by
  refine ⟨?_, rfl, rfl, dataWithReport_len _, rfl, rfl, rfl⟩
  unfold quoteReqOf dataWithReport
  simp [← h]

/-- Main statement: the result is `ok bytes` exactly when both requests succeed with result 0,
    status is 0, `0 < OutLen ≤ ReqBufSize`, and `bytes` are the first `OutLen` bytes of what the
    device left in the buffer. -/
theorem device_relay_spec (s : DevScript) (rd bytes : Bytes) (h : WF s) :
    (getRawQuoteViaDevice s rd).1 = .ok bytes ↔
      (s.repErr = false ∧ s.repRes = 0 ∧ s.qErr = false ∧ s.qRes = 0 ∧ s.status = 0 ∧
       0 < s.outLen ∧ s.outLen ≤ reqBuf ∧ bytes = (dataAfter s s.report).take s.outLen) := by
  show result s = _ ↔ _
  rw [(result_decides h.buf_len).ok_iff]; simp only [and_assoc]

/-- No device outcome makes the client crash. -/
theorem never_panics (s : DevScript) (rd : Bytes) (h : WF s) : (getRawQuoteViaDevice s rd).1 ≠ .panic :=
  (result_decides h.buf_len).ne_panic

/-- Every other device outcome is an error. -/
theorem failure_is_error (s : DevScript) (rd : Bytes) (h : WF s)
    (hbad : ¬ (s.repErr = false ∧ s.repRes = 0 ∧ s.qErr = false ∧ s.qRes = 0 ∧ s.status = 0 ∧
       0 < s.outLen ∧ s.outLen ≤ reqBuf)) :
    ∃ e, (getRawQuoteViaDevice s rd).1 = .err e :=
  (result_decides h.buf_len).err hbad

/-- The TD report is never returned in place of a quote: when the device wrote the buffer, the
    result is a prefix of what it wrote. -/
theorem result_is_device_output (s : DevScript) (rd bytes b : Bytes) (h : WF s) (hb : s.buf = some b)
    (hr : (getRawQuoteViaDevice s rd).1 = .ok bytes) : bytes = b.take s.outLen := by
  simpa [dataAfter, hb] using ((result_decides h.buf_len).ok_iff.mp hr).2

/-- Quote provider: supported ⇒ the provider's pair verbatim; unsupported ⇒ the device path. -/
theorem provider_spec (p : ProvScript) :
    getRawQuoteViaProvider p = if p.supported then .verbatim p.bytes p.err else .devicePath := rfl

/-! ### the pinned tree (finding F8): OutLen unchecked on the success path -/

def f8Script (outLen : Nat) : DevScript :=
  { repErr := false, repRes := 0, report := zeros repSize, qErr := false, qRes := 0, status := 0,
    outLen := outLen, buf := none }

theorem f8Script_report (n : Nat) : getReport (f8Script n) = .ok (zeros repSize) := rfl

/-- OutLen 0 with status 0: the pinned tree returns an empty quote and no error. -/
theorem unfixed_witness_empty_quote : resultUnfixed (f8Script 0) = .ok [] := by
  unfold resultUnfixed
  rw [f8Script_report]
  simp [f8Script, attestSuccess_eq, slice]

/-- OutLen = ReqBufSize + 1 with status 0: the pinned tree slices out of range. -/
theorem unfixed_witness_panic : resultUnfixed (f8Script (reqBuf + 1)) = .panic := by
  unfold resultUnfixed
  rw [f8Script_report]
  have hl : (dataAfter (f8Script (reqBuf + 1)) (zeros repSize)).length = reqBuf := dataWithReport_len _
  simp [f8Script, attestSuccess_eq, slice] at hl ⊢
  omega

/-! ### non-vacuity: a concrete well-formed script that succeeds -/

def okScript : DevScript :=
  { repErr := false, repRes := 0, report := zeros repSize, qErr := false, qRes := 0, status := 0,
    outLen := 5, buf := some (zeros reqBuf) }

theorem okScript_wf : WF okScript :=
  ⟨by simp [okScript, zeros], by intro b hb; cases hb; simp [zeros]⟩

example : (getRawQuoteViaDevice okScript (zeros 64)).1 = .ok ((zeros reqBuf).take 5) :=
  (device_relay_spec okScript (zeros 64) _ okScript_wf).mpr
    ⟨rfl, rfl, rfl, rfl, rfl, by decide, by decide, rfl⟩

end Tdx.Props.C15
