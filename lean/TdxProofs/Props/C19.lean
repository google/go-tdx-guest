/-
  C19 — the check tool's exit code is truthful, flags override the config, it never crashes.
  `tool_eq_exit` ties the step-by-step `main` to the decision table `exitCode`; the exit-code theorems are about the table.
-/
import TdxProofs.Lemmas.CheckTool

namespace Tdx.Props.C19
open Tdx.CheckTool Tdx.Lemmas.CheckTool

/-! ### the step-by-step `main` and the decision table agree; no crash -/

/-- For every library, command line, config shape and quote argument the (repaired) tool terminates
    through `os.Exit` with the code of the decision table `exitCode`. -/
theorem tool_eq_exit (L : Library) (i : ToolInput) : tool L i = .exit (exitCode L i) := by
  unfold tool toolV exitCode usageOk effectiveRot effectivePolicy populateRootOfTrust populateConfig
  -- `main` tests the root-of-trust flags and the policy flags separately, `usageOk` both at once (`restOk_split`)
  rw [ptrsOf_fixed, restOk_split]
  -- the tests in the order `main` makes them: where one fails, both sides compute to `exitTool`
  cases i.flagPkgOk
  · rfl
  cases i.flags.bytesOk
  · rfl
  cases configReadable i.config
  · rfl
  generalize (i.flags.checkCrl.ok && i.flags.getCollateral.ok && i.flags.trustedRoots.ok) = rotFlagsOk
  generalize (i.flags.minimumQeSvn.ok && i.flags.minimumPceSvn.ok && i.flags.rtmrs.ok) = policyFlagsOk
  cases rotFlagsOk
  · cases policyFlagsOk <;> rfl
  cases policyFlagsOk
  · rfl
  -- both merges succeeded: what is left of `main` runs on the effective settings
  simp only [↓reduceIte, clarify_fixed]
  generalize mergeRot i.flags (baseOf i.config).rot = rot
  generalize Policy.mk (mergeHeader i.flags (baseOf i.config).header) (mergeBody i.flags (baseOf i.config).body) = pol
  cases (rot.checkCrl && !rot.getCollateral)
  case true => rfl
  cases i.quote with
  | unreadable | badInform | unparsable => rfl
  | parsed =>
    cases L.rotOk rot
    · rfl
    cases L.verify rot with
    | fail c => cases c.isDownload <;> rfl
    | ok =>
      cases policyConverts pol
      · rfl
      cases L.validates pol <;> rfl

/-- **No input makes the tool crash** (no nil dereference in the merge, whatever sub-messages the
    config lacks, whatever the flags, whatever the library answers). -/
theorem never_crashes (L : Library) (i : ToolInput) : tool L i ≠ .crash := by
  rw [tool_eq_exit]
  nofun

/-- The merge itself never dereferences nil: for every config shape (policy, header_policy,
    td_quote_body_policy, root_of_trust each present or absent) and all flags. -/
theorem merge_never_crashes (c : ConfigMsg) (f : Flags) :
    populateConfig (parseFixed c) f ≠ .panic ∧ populateRootOfTrust (parseFixed c) f ≠ .panic :=
  -- `parseFixed` leaves no sub-message absent, so each merge computes to an `if` between a value and an error
  ⟨ite_ne nofun nofun, ite_ne nofun nofun⟩

/-- …and when the flags are well formed it yields exactly the effective policy / root of trust. -/
theorem merge_spec (c : ConfigMsg) (f : Flags) (h : f.restOk = true) :
    populateConfig (parseFixed c) f = .ok (effectivePolicy { flags := f, config := .file c }) ∧
    populateRootOfTrust (parseFixed c) f = .ok (effectiveRot { flags := f, config := .file c }) := by
  rw [restOk_split, Bool.and_eq_true] at h
  exact ⟨if_pos h.2, if_pos h.1⟩

/-! ### exit 0 only if … -/

/-- **Exit status 0 exactly when** the invocation is usable, the quote verifies under the effective
    root of trust, the effective policy converts to options and the quote satisfies it. -/
theorem exit_zero_iff (L : Library) (i : ToolInput) :
    exitCode L i = 0 ↔
      usageOk L i = true ∧ L.verify (effectiveRot i) = .ok ∧
      policyConverts (effectivePolicy i) = true ∧ L.validates (effectivePolicy i) = true := by
  unfold exitCode
  by_cases hu : usageOk L i = true
  · cases hv : L.verify (effectiveRot i) with
    | fail c => cases hd : c.isDownload <;> simp [hu, hd, exitCodes]
    | ok =>
      by_cases hp : policyConverts (effectivePolicy i) = true
      · by_cases hval : L.validates (effectivePolicy i) = true <;> simp [hu, hp, hval, exitCodes]
      · simp [hu, hp, exitCodes]
  · simp [hu, exitCodes]

/-- The same for the step-by-step tool. -/
theorem tool_exit_zero_iff (L : Library) (i : ToolInput) :
    tool L i = .exit 0 ↔
      usageOk L i = true ∧ L.verify (effectiveRot i) = .ok ∧
      policyConverts (effectivePolicy i) = true ∧ L.validates (effectivePolicy i) = true := by
  rw [tool_eq_exit, Run.exit.injEq, exit_zero_iff]

/-! ### the exit-code table -/

/-- the failure classes of the property statement -/
inductive Class where
  | success | usage | verification | download | policy
deriving Repr, DecidableEq

def Class.code : Class → Nat
  | .success => 0
  | .usage => exitTool
  | .verification => exitVerify
  | .download => exitNetwork
  | .policy => exitPolicy

/-- the class of an invocation, written from the statement: usage problems first (flags, config,
    inconsistent options, quote argument, root bundles; an effective policy that cannot be converted),
    then how verification ended, then the policy -/
def classOf (L : Library) (i : ToolInput) : Class :=
  if usageOk L i = false then .usage
  else match L.verify (effectiveRot i) with
    | .fail c => if c.isDownload then .download else .verification
    | .ok =>
      if policyConverts (effectivePolicy i) = false then .usage
      else if L.validates (effectivePolicy i) = false then .policy
      else .success

/-- **Exit-code table** (total): the status is the code of the invocation's class — usage 1,
    verification 2, download 3, policy 4, success 0 — and the five codes are pairwise different, so the
    status identifies the class. -/
theorem exit_code_table (L : Library) (i : ToolInput) :
    exitCode L i = (classOf L i).code ∧
    (∀ a b : Class, a.code = b.code → a = b) ∧
    (Class.usage.code = 1 ∧ Class.verification.code = 2 ∧ Class.download.code = 3 ∧ Class.policy.code = 4) := by
  refine ⟨?_, fun a b => by cases a <;> cases b <;> decide, exitCodes⟩
  -- `exitCode` and `classOf` are the same tree
  unfold exitCode classOf
  cases usageOk L i
  · rfl
  cases L.verify (effectiveRot i) with
  | fail c => dsimp only; cases c.isDownload <;> rfl
  | ok => cases policyConverts (effectivePolicy i) <;> cases L.validates (effectivePolicy i) <;> rfl

theorem exit_code_range (L : Library) (i : ToolInput) : exitCode L i ∈ [0, 1, 2, 3, 4] := by
  rw [(exit_code_table L i).1]
  cases classOf L i <;> decide

/-- malformed flags / unreadable config / inconsistent options / unusable quote argument ⇒ 1 -/
theorem usage_error_is_exit_1 (L : Library) (i : ToolInput) (h : usageOk L i = false) : exitCode L i = 1 := by
  rw [exitCode, h]; rfl

/-- a verification failure that is not a download failure ⇒ 2 -/
theorem verification_failure_is_exit_2 (L : Library) (i : ToolInput) (hu : usageOk L i = true)
    (c : VCause) (hv : L.verify (effectiveRot i) = .fail c) (hc : c.isDownload = false) : exitCode L i = 2 := by
  simp [exitCode, hu, hv, hc, exitCodes]

/-- **a failed download of TCB info, QE identity, PCK CRL or root CRL ⇒ 3**, for each of the four -/
theorem network_failure_is_exit_3 (L : Library) (i : ToolInput) (hu : usageOk L i = true)
    (c : VCause) (hv : L.verify (effectiveRot i) = .fail c) (hc : c.isDownload = true) :
    exitCode L i = 3 ∧ tool L i = .exit 3 := by
  have : exitCode L i = 3 := by simp [exitCode, hu, hv, hc, exitCodes]
  exact ⟨this, by rw [tool_eq_exit, this]⟩

/-- the library side of that clause: the error of each failed fetch is reachable through
    `errors.As` with the type the fetch function uses, through any number of further `%w` wrappers -/
theorem download_error_is_distinguishable (c : VCause) (hc : c.isDownload = true) (wrappers : Nat) :
    let e := GoErr.wrapN wrappers (libErrorFixed c)
    (errorsAs e .attPtr || errorsAs e .crlVal) = true := by
  intro e
  rw [errorsAs_wrapN (by decide), errorsAs_wrapN (by decide)]
  cases c with
  | other => cases hc
  | _ => rfl

/-- policy that cannot be converted (wrong length, SVN above 65535) ⇒ 1; mismatch ⇒ 4 -/
theorem policy_mismatch_is_exit_4 (L : Library) (i : ToolInput) (hu : usageOk L i = true)
    (hv : L.verify (effectiveRot i) = .ok) (hp : policyConverts (effectivePolicy i) = true)
    (hval : L.validates (effectivePolicy i) = false) : exitCode L i = 4 := by
  simp [exitCode, hu, hv, hp, hval, exitCodes]

theorem malformed_policy_is_exit_1 (L : Library) (i : ToolInput) (hu : usageOk L i = true)
    (hv : L.verify (effectiveRot i) = .ok) (hp : policyConverts (effectivePolicy i) = false) : exitCode L i = 1 := by
  simp [exitCode, hu, hv, hp, exitCodes]

/-! ### a given flag overrides the config; an unset flag keeps it (every kind of field, all values)

Each field of the effective settings is by definition `mergeX flag base`, so each statement is its
hypothesis about the flag under that function; the rest is computation. -/

section merge
variable (fl : Flags) (cfg : ConfigArg) (q : QuoteArg) (fp : Bool)

/-- optional bool flags `-check_crl`, `-get_collateral` -/
theorem flag_overrides_config_bool (v : Bool) :
    (fl.checkCrl = (if v then .t else .f) →
      (effectiveRot ⟨fp, fl, cfg, q⟩).checkCrl = v) ∧
    (fl.getCollateral = (if v then .t else .f) →
      (effectiveRot ⟨fp, fl, cfg, q⟩).getCollateral = v) := by
  cases v <;> exact ⟨congrArg (mergeBool · _), congrArg (mergeBool · _)⟩

theorem unset_flag_keeps_config_bool (c : ConfigMsg) :
    (fl.checkCrl = .unset → (effectiveRot ⟨fp, fl, .file c, q⟩).checkCrl = (c.rootOfTrust.getD {}).checkCrl) ∧
    (fl.getCollateral = .unset → (effectiveRot ⟨fp, fl, .file c, q⟩).getCollateral = (c.rootOfTrust.getD {}).getCollateral) :=
  ⟨congrArg (mergeBool · _), congrArg (mergeBool · _)⟩

/-- numeric flags `-minimum_qe_svn`, `-minimum_pce_svn` (any value the 32-bit parser accepts) -/
theorem flag_overrides_config_num (n : Nat) :
    (fl.minimumQeSvn = .val n → (effectivePolicy ⟨fp, fl, cfg, q⟩).header.minimumQeSvn = n) ∧
    (fl.minimumPceSvn = .val n → (effectivePolicy ⟨fp, fl, cfg, q⟩).header.minimumPceSvn = n) :=
  ⟨congrArg (mergeNum · _), congrArg (mergeNum · _)⟩

theorem unset_flag_keeps_config_num (c : ConfigMsg) :
    (fl.minimumQeSvn = .unset →
      (effectivePolicy ⟨fp, fl, .file c, q⟩).header.minimumQeSvn = (((c.policy.getD {}).header).getD {}).minimumQeSvn) ∧
    (fl.minimumPceSvn = .unset →
      (effectivePolicy ⟨fp, fl, .file c, q⟩).header.minimumPceSvn = (((c.policy.getD {}).header).getD {}).minimumPceSvn) :=
  ⟨congrArg (mergeNum · _), congrArg (mergeNum · _)⟩

/-- sized byte flags: the effective value is the decoded flag value zero-padded to the field size -/
theorem flag_overrides_config_bytes (b : Bytes) :
    (fl.qeVendorId = .dec b → (effectivePolicy ⟨fp, fl, cfg, q⟩).header.qeVendorId = pad qeVendorIdSize b) ∧
    (∀ k : BodyField, fl.body k = .dec b → (effectivePolicy ⟨fp, fl, cfg, q⟩).body.bytes k = pad k.size b) :=
  ⟨congrArg (mergeBytes _ · _), fun _ => congrArg (mergeBytes _ · _)⟩

/-- …which is the flag value itself when it has exactly the field's size -/
theorem pad_exact (size : Nat) (b : Bytes) (h : b.length = size) : pad size b = b := by
  simp [pad, h, zeros]

theorem pad_length (size : Nat) (b : Bytes) (h : b.length ≤ size) : (pad size b).length = size := by
  simp [pad, zeros]; omega

theorem unset_flag_keeps_config_bytes (c : ConfigMsg) :
    (fl.qeVendorId = .unset →
      (effectivePolicy ⟨fp, fl, .file c, q⟩).header.qeVendorId = (((c.policy.getD {}).header).getD {}).qeVendorId) ∧
    (∀ k : BodyField, fl.body k = .unset →
      (effectivePolicy ⟨fp, fl, .file c, q⟩).body.bytes k = (((c.policy.getD {}).body).getD {}).bytes k) :=
  ⟨congrArg (mergeBytes _ · _), fun _ => congrArg (mergeBytes _ · _)⟩

/-- `-rtmrs` -/
theorem flag_overrides_config_rtmrs (l : List Bytes) (h : fl.rtmrs = .val l) :
    (effectivePolicy ⟨fp, fl, cfg, q⟩).body.rtmrs = l :=
  congrArg (mergeRtmrs · _) h

theorem unset_flag_keeps_config_rtmrs (c : ConfigMsg) (h : fl.rtmrs = .unset) :
    (effectivePolicy ⟨fp, fl, .file c, q⟩).body.rtmrs = (((c.policy.getD {}).body).getD {}).rtmrs :=
  congrArg (mergeRtmrs · _) h

/-- `-trusted_roots` (a given flag names at least one path) -/
theorem flag_overrides_config_paths (l : List String) (hl : l ≠ []) (h : fl.trustedRoots = .val l) :
    (effectiveRot ⟨fp, fl, cfg, q⟩).cabundlePaths = l := by
  cases l with
  | nil => exact absurd rfl hl
  | cons a t => exact congrArg (mergePaths · _) h

theorem unset_flag_keeps_config_paths (c : ConfigMsg) (h : fl.trustedRoots = .unset) :
    (effectiveRot ⟨fp, fl, .file c, q⟩).cabundlePaths = (c.rootOfTrust.getD {}).cabundlePaths :=
  congrArg (mergePaths · _) h

/-- fields without a flag (`any_mr_td`, inline `cabundles`) always come from the config -/
theorem flagless_fields_from_config (c : ConfigMsg) :
    (effectivePolicy ⟨fp, fl, .file c, q⟩).body.anyMrTd = (((c.policy.getD {}).body).getD {}).anyMrTd ∧
    (effectiveRot ⟨fp, fl, .file c, q⟩).cabundles = (c.rootOfTrust.getD {}).cabundles :=
  ⟨rfl, rfl⟩

/-- no config file and no flag: the tool's defaults -/
theorem no_config_no_flags_defaults :
    effectiveRot ⟨fp, {}, .absent, q⟩ =
      { checkCrl := Gen.tools_check_defaultCheckCrl, getCollateral := Gen.tools_check_defaultGetCollateral } ∧
    (effectivePolicy ⟨fp, {}, .absent, q⟩).header =
      { minimumQeSvn := Gen.tools_check_defaultMinQeSvn, minimumPceSvn := Gen.tools_check_defaultMinPceSvn } ∧
    (∀ k, (effectivePolicy ⟨fp, {}, .absent, q⟩).body.bytes k = []) ∧
    (effectivePolicy ⟨fp, {}, .absent, q⟩).body.rtmrs = [] :=
  ⟨rfl, rfl, fun _ => rfl, rfl⟩

end merge

/-- the exit status depends on the flags and the config only through the effective settings (and the
    usage verdict): two invocations with the same effective settings exit alike -/
theorem exit_depends_on_effective (L : Library) (i j : ToolInput)
    (hu : usageOk L i = usageOk L j) (hr : effectiveRot i = effectiveRot j)
    (hp : effectivePolicy i = effectivePolicy j) : exitCode L i = exitCode L j := by
  unfold exitCode; rw [hu, hr, hp]

/-! ### malformed flags -/

theorem malformed_flag_is_exit_1 (L : Library) (i : ToolInput)
    (h : i.flagPkgOk = false ∨ i.flags.checkCrl = .bad ∨ i.flags.getCollateral = .bad ∨
         i.flags.minimumQeSvn = .bad ∨ i.flags.minimumPceSvn = .bad ∨
         (∃ n, i.flags.minimumQeSvn = .val n ∧ 2 ^ 32 ≤ n) ∨ (∃ n, i.flags.minimumPceSvn = .val n ∧ 2 ^ 32 ≤ n) ∨
         i.flags.qeVendorId = .bad ∨ (∃ b, i.flags.qeVendorId = .dec b ∧ qeVendorIdSize < b.length) ∨
         (∃ k, i.flags.body k = .bad) ∨ (∃ k b, i.flags.body k = .dec b ∧ k.size < b.length) ∨
         i.flags.rtmrs = .bad ∨ i.flags.trustedRoots = .bad) :
    exitCode L i = 1 := by
  apply usage_error_is_exit_1
  have rest : i.flags.restOk = false → usageOk L i = false := fun h => by simp [usageOk, h]
  have bytes : i.flags.bytesOk = false → usageOk L i = false := fun h => by simp [usageOk, h]
  rcases h with h | h | h | h | h | ⟨n, h, hn⟩ | ⟨n, h, hn⟩ | h | ⟨b, h, hb⟩ | ⟨k, h⟩ | ⟨k, b, h, hb⟩ | h | h
  · simp [usageOk, h]
  · exact rest (by simp [Flags.restOk, h, BoolFlag.ok])
  · exact rest (by simp [Flags.restOk, h, BoolFlag.ok])
  · exact rest (by simp [Flags.restOk, h, NumFlag.ok])
  · exact rest (by simp [Flags.restOk, h, NumFlag.ok])
  · exact rest (by simp [Flags.restOk, h, NumFlag.ok, Nat.not_lt.mpr hn])
  · exact rest (by simp [Flags.restOk, h, NumFlag.ok, Nat.not_lt.mpr hn])
  · exact bytes (bytesOk_eq_false (.inl (by simp [h, BytesFlag.ok])))
  · exact bytes (bytesOk_eq_false (.inl (by simp [h, BytesFlag.ok, hb])))
  · exact bytes (bytesOk_eq_false (.inr ⟨k, by simp [h, BytesFlag.ok]⟩))
  · exact bytes (bytesOk_eq_false (.inr ⟨k, by simp [h, BytesFlag.ok, hb]⟩))
  · exact rest (by simp [Flags.restOk, h, ListFlag.ok])
  · exact rest (by simp [Flags.restOk, h, ListFlag.ok])

/-- `-check_crl` without `-get_collateral` (from whichever sources the two values come) ⇒ 1 -/
theorem crl_without_collateral_is_exit_1 (L : Library) (i : ToolInput)
    (h1 : (effectiveRot i).checkCrl = true) (h2 : (effectiveRot i).getCollateral = false) : exitCode L i = 1 := by
  apply usage_error_is_exit_1
  simp [usageOk, h1, h2]

/-- an SVN flag that fits 32 bits but not 16 is rejected when the policy is converted ⇒ 1 (or an
    earlier verification failure's code; never 0 or 4) -/
theorem svn_above_16_bits_never_accepted (L : Library) (i : ToolInput) (n : Nat) (hn : maxSvn < n)
    (h : i.flags.minimumQeSvn = .val n ∨ i.flags.minimumPceSvn = .val n) :
    exitCode L i ≠ 0 ∧ exitCode L i ≠ 4 := by
  have hp : policyConverts (effectivePolicy i) = false := by
    have hn' : ¬ n ≤ maxSvn := by omega
    unfold policyConverts
    rcases h with h | h
    · simp [show (effectivePolicy i).header.minimumQeSvn = n from (flag_overrides_config_num _ _ _ _ n).1 h, hn']
    · simp [show (effectivePolicy i).header.minimumPceSvn = n from (flag_overrides_config_num _ _ _ _ n).2 h, hn']
  -- so the status is that of a usage error or of a failed verification
  have key : ∀ x, x ≠ exitTool → x ≠ exitVerify → x ≠ exitNetwork → exitCode L i ≠ x := fun x h1 h2 h3 => by
    unfold exitCode
    rw [hp]
    refine ite_ne h1.symm ?_
    cases L.verify (effectiveRot i) with
    | fail c => exact ite_ne h3.symm h2.symm
    | ok => exact h1.symm
  exact ⟨key 0 (by decide) (by decide) (by decide), key 4 (by decide) (by decide) (by decide)⟩

/-! ### the pinned tree (findings F11, F10, F14) -/

/-- a config whose `policy` has `td_quote_body_policy {}` but no `header_policy` -/
def f11Config : ConfigMsg := { policy := some { header := none, body := some {} } }

/-- F11: pinned `parseConfig` leaves the nil pointer in place and `populateConfig` dereferences it,
    with no flag given at all … -/
theorem unfixed_witness_header_policy_nil :
    populateConfig (parseUnfixed f11Config) {} = .panic ∧
    populateConfig (parseUnfixed { policy := some { header := some {}, body := none } }) {} = .panic := ⟨rfl, rfl⟩

/-- … so the pinned tool crashes on it whatever the library says, while the repaired one exits. -/
theorem unfixed_witness_tool_crashes (L : Library) :
    toolV pinned L { config := .file f11Config } = .crash ∧
    ∃ n, tool L { config := .file f11Config } = .exit n := ⟨rfl, _, tool_eq_exit L _⟩

/-- F10: with `%v` in `obtainCollateral` the typed error is not on the Unwrap chain, so for each of
    the four failed fetches the pinned `clarify` answers "not a network error" … -/
theorem unfixed_witness_exit3_unreachable (c : VCause) :
    clarify pinned.crlTarget (pinned.libError c) = false := by
  cases c <;> rfl

/-- … and `%w` alone does not repair the two CRL fetches: `errors.As` with a
    `*verify.CRLUnavailableErr` target never matches the struct *values* the library returns. -/
theorem unfixed_witness_pointer_target (c : VCause) (h : c = .pckCrlFetch ∨ c = .rootCrlFetch) :
    clarify .crlPtr (libErrorFixed c) = false ∧ clarify .crlVal (libErrorFixed c) = true := by
  rcases h with h | h <;> subst h <;> exact ⟨rfl, rfl⟩

/-- hence no input at all makes the pinned tool exit 3 (`exitNetwork` is unreachable), although the
    property demands it for every usable invocation whose download fails. -/
theorem unfixed_witness_never_exits_3 (L : Library) (i : ToolInput) : toolV pinned L i ≠ .exit 3 :=
  toolV_ne_exit (by decide) (by decide) (by decide) (by decide) (by decide) unfixed_witness_exit3_unreachable

/-- F14: a command line the flag package rejects ends the pinned tool with status 2, the code of a
    verification failure. -/
theorem unfixed_witness_flag_package_exit_2 (L : Library) (i : ToolInput) (h : i.flagPkgOk = false) :
    toolV pinned L i = .exit exitVerify ∧ tool L i = .exit exitTool := by
  unfold tool toolV
  rw [h]
  exact ⟨rfl, rfl⟩

/-! ### non-vacuity: concrete invocations in every class -/

/-- a library under which everything verifies and validates -/
def okLib : Library := { rotOk := fun _ => true, verify := fun _ => .ok, validates := fun _ => true }

/-- one that rejects exactly the policies whose MR_TD option is 48 bytes of 0x11 -/
def pickyLib : Library :=
  { okLib with validates := fun p => p.body.bytes .mrTd != List.replicate 48 0x11 }

/-- a library whose TCB-info download fails as soon as collateral is requested -/
def offlineLib : Library :=
  { okLib with verify := fun r => if r.getCollateral then .fail .tcbInfoFetch else .ok }

def mismatchCfg : ConfigMsg :=
  { policy := some { header := some {}, body := some { bytes := fun k => if k = .mrTd then List.replicate 48 0x11 else [] } } }

example : exitCode okLib {} = 0 := by decide
example : usageOk okLib {} = true ∧ policyConverts (effectivePolicy {}) = true := by decide
-- config says "MR_TD must be 0x11…": exit 4; the flag with another value overrides it: exit 0
example : exitCode pickyLib { config := .file mismatchCfg } = 4 := by decide
example : exitCode pickyLib
    { config := .file mismatchCfg,
      flags := { body := fun k => if k = .mrTd then .dec (List.replicate 48 0x22) else .unset } } = 0 := by decide
-- and the other way round: config fine, flag mismatching ⇒ 4
example : exitCode pickyLib
    { config := .file {},
      flags := { body := fun k => if k = .mrTd then .dec (List.replicate 48 0x11) else .unset } } = 4 := by decide
-- a config with a 3-byte MR_TD cannot be converted: usage error
example : exitCode okLib { config := .file { policy := some { body := some { bytes := fun _ => [1, 2, 3] } } } } = 1 := by decide
-- get_collateral from the config, network down: exit 3; `-get_collateral=false` overrides: exit 0
example : exitCode offlineLib { config := .file { rootOfTrust := some { getCollateral := true } } } = 3 := by decide
example : exitCode offlineLib
    { config := .file { rootOfTrust := some { getCollateral := true } },
      flags := { getCollateral := .f } } = 0 := by decide
example : exitCode { okLib with verify := fun _ => .fail .other } {} = 2 := by decide
example : exitCode okLib { flags := { checkCrl := .t } } = 1 := by decide
example : exitCode okLib { flags := { minimumQeSvn := .val 70000 } } = 1 := by decide
example : exitCode okLib { quote := .unparsable } = 1 := by decide
-- hypotheses of `network_failure_is_exit_3` are satisfiable
example : usageOk offlineLib { flags := { getCollateral := .t } } = true ∧
    offlineLib.verify (effectiveRot { flags := { getCollateral := .t } }) = .fail .tcbInfoFetch ∧
    VCause.tcbInfoFetch.isDownload = true := by decide
-- hypotheses of `merge_spec`, `flag_overrides_config_paths`, `svn_above_16_bits_never_accepted`
example : ({} : Flags).restOk = true := by decide
example : (effectiveRot
    { flags := { trustedRoots := .val ["a.pem"] },
      config := .file { rootOfTrust := some { cabundlePaths := ["b.pem"] } } }).cabundlePaths = ["a.pem"] := by decide
example : maxSvn < 70000 := by decide
-- the F11 shape through the repaired tool: an ordinary run
example : tool okLib { config := .file f11Config } = .exit 0 := by decide

end Tdx.Props.C19
