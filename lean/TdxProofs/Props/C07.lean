/-
  C07 — the quoting enclave must match Intel's QE identity and be UpToDate.
-/
import TdxProofs.Lemmas.Verify
import TdxProofs.Lemmas.Tcb

namespace Tdx.Props.C07
open Tdx.Gen Tdx.Abi Tdx.Verify

/-- the first QE TCB level in listed order whose isvsvn is not above the report's ISVSVN -/
def FirstQeLevel (levels : List TcbLevelF) (isvsvn : Nat) (l : TcbLevelF) : Prop :=
  ∃ i, ∃ h : i < levels.length, levels[i] = l ∧ l.isvsvn ≤ isvsvn ∧ ∀ j (hj : j < i), isvsvn < (levels[j]'(by omega)).isvsvn

structure QeMatches (doc : QeIdDoc) (r : EnclaveReport) : Prop where
  maskSize : doc.miscselectMask.length = 4
  valueSize : doc.miscselect.length = 4
  /-- MISCSELECT: the report's value under the identity's mask equals the identity's value (little-endian 32 bit) -/
  miscselect : le32 doc.miscselect = r.miscSelect &&& le32 doc.miscselectMask
  attrMaskSize : doc.attributesMask.length = r.attributes.length
  /-- ATTRIBUTES: byte-wise mask applied to the report's attributes -/
  attributes : doc.attributes = applyMask doc.attributesMask r.attributes
  mrsigner : doc.mrsigner = r.mrSigner
  isvProdId : r.isvProdId = doc.isvProdId
  /-- the first level not above the report's ISVSVN exists and is UpToDate -/
  level : ∃ l, FirstQeLevel doc.levels r.isvSvn l ∧ upToDate l = true

theorem find_first_iff (levels : List TcbLevelF) (isvsvn : Nat) (l : TcbLevelF) :
    levels.find? (fun l => decide (l.isvsvn ≤ isvsvn)) = some l ↔ FirstQeLevel levels isvsvn l := by
  simp only [find?_decide_eq_some_iff (P := fun l : TcbLevelF => l.isvsvn ≤ isvsvn), FirstQeLevel, Nat.not_le]

/-- **C07, main statement** for `verifyQeReport`: for all mask contents and all level lists. -/
theorem qe_accept_iff (doc : QeIdDoc) (r : EnclaveReport) : qeReportCheck doc r = .ok () ↔ QeMatches doc r := by
  unfold qeReportCheck
  rw [runChecks_bind_ok_iff, (qeStatusCheck_decides ..).ok_iff_unit]
  simp only [check_list, find_first_iff]
  exact ⟨fun ⟨a, b, c, d, e, f, g, h⟩ => ⟨a, b, c, d, e, f, g, h⟩,
    fun m => ⟨m.maskSize, m.valueSize, m.miscselect, m.attrMaskSize, m.attributes, m.mrsigner, m.isvProdId, m.level⟩⟩

/-- if no level matches, verification fails -/
theorem no_level_is_error (doc : QeIdDoc) (r : EnclaveReport) (hnone : ∀ l ∈ doc.levels, r.isvSvn < l.isvsvn) :
    qeReportCheck doc r ≠ .ok () := by
  intro h
  obtain ⟨l, ⟨i, hi, e, hle, _⟩, _⟩ := ((qe_accept_iff doc r).mp h).level
  have := hnone l (e ▸ List.getElem_mem hi)
  omega

/-- `applyMask` is the byte-wise AND of mask and value -/
theorem applyMask_spec (mask v : Bytes) (h : mask.length = v.length) :
    (applyMask mask v).length = mask.length ∧
    ∀ i (h1 : i < mask.length) (h2 : i < v.length) (h3 : i < (applyMask mask v).length),
      (applyMask mask v)[i] = mask[i] &&& v[i] := by
  unfold applyMask
  refine ⟨by simp [h], ?_⟩
  intro i h1 h2 h3
  simp [List.getElem_zipWith]

/-- **C07 for whole calls.** -/
theorem accept_implies_qe_identity (C : Crypto) (w : World) (q : Option QuoteV4) (o : Opts)
    (hg : o.getCollateral = true) (h : (tdxQuote Fixes.all C w q o).verdict = .ok ()) :
    ∃ (q' : QuoteV4) (c : Collateral), q = some q' ∧
      QeMatches c.qe (((qeCertData q').getD default).qeReport.getD default) := by
  obtain ⟨q', ch, ext, col, rfl, hc, hch, hext, hf, hev⟩ := ((tdxQuote_ok_iff C w q o).mp h).witness
  obtain ⟨c, rfl, _⟩ := hev.collateral hg
  exact ⟨q', c, rfl, (qe_accept_iff _ _).mp (hev.tcb c rfl).2⟩

/-- whatever status string a level carries, only "UpToDate" passes (the seven of the PCS: `statuses_distinct`) -/
theorem only_up_to_date_passes (l : TcbLevelF) : upToDate l = true ↔ l.status = "UpToDate" := by
  unfold upToDate; simp

theorem statuses_distinct :
    [pcs_TcbComponentStatusUpToDate, pcs_TcbComponentStatusSwHardeningNeeded, pcs_TcbComponentStatusConfigurationNeeded,
     pcs_TcbComponentStatusConfigurationAndSWHardeningNeeded, pcs_TcbComponentStatusOutOfDate,
     pcs_TcbComponentStatusOutOfDateConfigurationNeeded, pcs_TcbComponentStatusRevoked] =
    ["UpToDate", "SWHardeningNeeded", "ConfigurationNeeded", "ConfigurationAndSWHardeningNeeded", "OutOfDate",
     "OutOfDateConfigurationNeeded", "Revoked"] := rfl

/-! ### non-vacuity -/
def doc0 : QeIdDoc :=
  { miscselect := [1, 0, 0, 0], miscselectMask := [0x0f, 0, 0, 0], attributes := [0x10], attributesMask := [0xf0], mrsigner := [7],
    isvProdId := 2, levels := [{ isvsvn := 9, status := "OutOfDate" }, { isvsvn := 4, status := "UpToDate" }] }
def rep0 : EnclaveReport := { (default : EnclaveReport) with miscSelect := 0xf1, attributes := [0x1f], mrSigner := [7], isvProdId := 2, isvSvn := 5 }
example : qeReportCheck doc0 rep0 = .ok () := by decide
example : QeMatches doc0 rep0 := (qe_accept_iff _ _).mp (by decide)

end Tdx.Props.C07
