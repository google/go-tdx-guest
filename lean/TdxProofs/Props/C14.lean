/-
  C14 — a policy message means the same after conversion to validation options.
  `conversion_decides` is the statement; the property theorems read it.
-/
import TdxProofs.Props.C08

namespace Tdx.Props.C14
open Tdx.Abi Tdx.Validate

/-- a byte-string expectation is well sized when it is absent (nil) or has exactly its field's size -/
def SizedOpt (n : Nat) (o : Option Bytes) : Prop := ∀ v, o = some v → v.length = n

/-- a list expectation is well sized when it is empty, or has the required count and every entry is empty or right-sized -/
def SizedList (count : Option Nat) (n : Nat) (l : List Bytes) : Prop :=
  l = [] ∨ ((∀ c, count = some c → l.length = c) ∧ ∀ e ∈ l, e.length = 0 ∨ e.length = n)

/-- exactly the policies that convert -/
structure WellSized (o : Options) : Prop where
  minQe : o.minimumQeSvn ≤ 65535
  minPce : o.minimumPceSvn ≤ 65535
  minTee : SizedOpt 16 o.minimumTeeTcbSvn
  mrSeam : SizedOpt 48 o.mrSeam
  tdAttributes : SizedOpt 8 o.tdAttributes
  xfam : SizedOpt 8 o.xfam
  mrTd : SizedOpt 48 o.mrTd
  mrConfigId : SizedOpt 48 o.mrConfigId
  mrOwner : SizedOpt 48 o.mrOwner
  mrOwnerConfig : SizedOpt 48 o.mrOwnerConfig
  reportData : SizedOpt 64 o.reportData
  qeVendorId : SizedOpt 16 o.qeVendorId
  rtmrs : SizedList (some 4) 48 o.rtmrs
  anyMrTd : SizedList none 48 o.anyMrTd

theorem lengthCheck_decides {n : Nat} {o : Option Bytes} : Decides (lengthCheck n o) (SizedOpt n o) () := by
  unfold lengthCheck SizedOpt
  cases o with
  | none => exact (Decides.pure ()).iff (by simp)
  | some v => exact (Decides.guard' _ _).iff (by simp)

theorem lengthCheckMany_decides {count : Option Nat} {n : Nat} {l : List Bytes} :
    Decides (lengthCheckMany count n l) (SizedList count n l) () := by
  unfold lengthCheckMany SizedList
  cases count with
  | none => exact (Decides.ite_ok fun _ => .guard' _ _).iff (by simp)
  | some c => exact (Decides.ite_ok fun _ => (Decides.guard' _ _).bind fun _ => .guard' _ _).iff (by simp)

theorem lengthCheck_ok_iff (n : Nat) (o : Option Bytes) : lengthCheck n o = .ok () ↔ SizedOpt n o :=
  lengthCheck_decides.ok_iff_unit

theorem lengthCheckMany_ok_iff (count : Option Nat) (n : Nat) (l : List Bytes) :
    lengthCheckMany count n l = .ok () ↔ SizedList count n l :=
  lengthCheckMany_decides.ok_iff_unit

/-- `checkOptionsLengths`, for every options value: the twelve byte-string expectations are well sized -/
theorem checkOptionsLengths_decides (o : Options) :
    Decides (checkOptionsLengths' true o)
      (SizedOpt 16 o.minimumTeeTcbSvn ∧ SizedOpt 48 o.mrSeam ∧ SizedOpt 8 o.tdAttributes ∧ SizedOpt 8 o.xfam ∧
       SizedOpt 48 o.mrTd ∧ SizedOpt 48 o.mrConfigId ∧ SizedOpt 48 o.mrOwner ∧ SizedOpt 48 o.mrOwnerConfig ∧
       SizedOpt 64 o.reportData ∧ SizedOpt 16 o.qeVendorId ∧ SizedList (some 4) 48 o.rtmrs ∧ SizedList none 48 o.anyMrTd) () := by
  unfold checkOptionsLengths'
  exact (combine_cons lengthCheck_decides <| combine_cons lengthCheck_decides <| combine_cons lengthCheck_decides <|
    combine_cons lengthCheck_decides <| combine_cons lengthCheck_decides <| combine_cons lengthCheck_decides <|
    combine_cons lengthCheck_decides <| combine_cons lengthCheck_decides <| combine_cons lengthCheck_decides <|
    combine_cons lengthCheck_decides <| combine_cons lengthCheckMany_decides <|
    combine_cons lengthCheckMany_decides combine_nil).iff (by simp only [and_true])

/-- `PolicyToOptions` checks that the policy is well sized and returns the options that read it field by field. -/
theorem conversion_decides (p : Option Policy) : Decides (policyToOptions p) (WellSized (optionsOf p)) (optionsOf p) := by
  unfold policyToOptions policyToOptions'
  refine ((Decides.guard' _ _).bind fun _ => (Decides.guard' _ _).bind fun _ =>
    (checkOptionsLengths_decides _).bind fun _ => Decides.pure (optionsOf p)).iff ?_
  simp only [not_blt_eq_true_iff, and_true]
  exact ⟨fun ⟨h1, h2, a1, a2, a3, a4, a5, a6, a7, a8, a9, a10, a11, a12⟩ => ⟨h1, h2, a1, a2, a3, a4, a5, a6, a7, a8, a9, a10, a11, a12⟩,
    fun w => ⟨w.minQe, w.minPce, w.minTee, w.mrSeam, w.tdAttributes, w.xfam, w.mrTd, w.mrConfigId, w.mrOwner, w.mrOwnerConfig,
      w.reportData, w.qeVendorId, w.rtmrs, w.anyMrTd⟩⟩

/-- Conversion either fails or returns exactly the options that read the policy field by field
    (no field dropped, crossed or altered). -/
theorem field_mapping (p : Option Policy) (o : Options) (h : policyToOptions p = .ok o) : o = optionsOf p :=
  ((conversion_decides p).ok_iff.mp h).2

/-- …and `optionsOf` is the like-named field of the like-named sub-policy, for each of the 14 fields. -/
theorem optionsOf_fields (hp : HeaderPolicy) (tp : TdBodyPolicy) :
    let o := optionsOf (some ⟨some hp, some tp⟩)
    o.minimumQeSvn = hp.minimumQeSvn ∧ o.minimumPceSvn = hp.minimumPceSvn ∧ o.qeVendorId = hp.qeVendorId ∧
    o.minimumTeeTcbSvn = tp.minimumTeeTcbSvn ∧ o.mrSeam = tp.mrSeam ∧ o.tdAttributes = tp.tdAttributes ∧ o.xfam = tp.xfam ∧
    o.mrTd = tp.mrTd ∧ o.mrConfigId = tp.mrConfigId ∧ o.mrOwner = tp.mrOwner ∧ o.mrOwnerConfig = tp.mrOwnerConfig ∧
    o.rtmrs = tp.rtmrs ∧ o.reportData = tp.reportData ∧ o.anyMrTd = tp.anyMrTd := by
  simp [optionsOf]

/-- Conversion succeeds exactly on well-sized policies: it fails whenever an SVN minimum exceeds 16 bits
    or any byte-string expectation — including the minimum TEE TCB SVN — has the wrong length. -/
theorem conversion_ok_iff (p : Option Policy) :
    (∃ o, policyToOptions p = .ok o) ↔ WellSized (optionsOf p) :=
  (conversion_decides p).exists_ok_iff

theorem conversion_never_panics (p : Option Policy) : policyToOptions p ≠ .panic := (conversion_decides p).ne_panic

theorem conversion_fails_when_malformed (p : Option Policy) (h : ¬ WellSized (optionsOf p)) :
    ∃ e, policyToOptions p = .err e := (conversion_decides p).err h

/-- in particular: a non-empty minimum TEE TCB SVN of the wrong length does not convert -/
theorem min_tee_tcb_svn_wrong_length_fails (p : Option Policy) (v : Bytes)
    (hv : (optionsOf p).minimumTeeTcbSvn = some v) (hl : v.length ≠ 16) : ∃ e, policyToOptions p = .err e :=
  conversion_fails_when_malformed p fun w => hl (w.minTee v hv)

/-- **Main statement.** A policy that converts yields options under which validation gives, for every
    quote message, the verdict the policy literally describes, and can never crash validation. -/
theorem conversion_preserves_meaning (p : Option Policy) (o : Options) (h : policyToOptions p = .ok o) :
    (∀ q : QuoteV4, validate (some q) (some o) = .ok () ↔
        checkQuoteV4 (some q) = .ok () ∧
        C08.Meets (q.header.getD default) (q.tdQuoteBody.getD default) (optionsOf p)) ∧
    (∀ q : Option QuoteV4, validate q (some o) ≠ .panic) := by
  have := field_mapping p o h
  subst this
  exact ⟨fun q => C08.validate_ok_iff_meets q _, fun q => C08.validate_never_panics q _⟩

/-! ### the pinned tree (finding F7): the minimum TEE TCB SVN is not length-checked -/

def f7Policy : Option Policy := some ⟨none, some { minimumTeeTcbSvn := some [0] }⟩

theorem unfixed_witness_converts : (policyToOptionsUnfixed f7Policy).isOk = true := by decide
theorem fixed_rejects : (policyToOptions f7Policy).isErr = true := by decide

/-! ### non-vacuity -/

def okPolicy : Option Policy :=
  some ⟨some { minimumQeSvn := 7, minimumPceSvn := 5 }, some { mrTd := some (zeros 48), rtmrs := [[], zeros 48, [], []] }⟩

example : policyToOptions okPolicy = .ok C08.opts0 := by decide +kernel
example : WellSized (optionsOf okPolicy) := (conversion_ok_iff okPolicy).mp ⟨C08.opts0, by decide +kernel⟩

end Tdx.Props.C14
