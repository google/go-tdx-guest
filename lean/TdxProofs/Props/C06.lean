/-
  C06 — nothing expired is accepted; each artifact is judged at its own configured time.
-/
import TdxProofs.Lemmas.Verify

namespace Tdx.Props.C06
open Tdx.Abi Tdx.Verify

/-- the time set a call judges at: the caller's, or the clock reading of the call in all five entries -/
def timesOf (w : World) (o : Opts) : TimeSet := o.now.getD (defaultTimeSet w.clock)

/-- every certificate on a validated path is inside its validity period at `t` -/
def PathInWindow (w : World) (roots : List Nat) (inter : Option Nat) (c : Nat) (t : Int) : Prop :=
  inWindow (cert w c) t = true ∧ PathOk w roots inter c t

/-- what acceptance establishes about time, artifact by artifact, each at its own entry of the time set -/
structure InDate (w : World) (o : Opts) : Prop where
  witness : ∃ (ch : Chain), extractChain w.chainPem = .ok ch ∧
    let T := timesOf w o
    -- PCK chain, at T.pckCertChain: no certificate expired; leaf (and the path above it) inside the validity period
    T.pckCertChain ≤ (cert w ch.root).notAfter ∧ T.pckCertChain ≤ (cert w ch.inter).notAfter ∧
    T.pckCertChain ≤ (cert w ch.leaf).notAfter ∧
    PathInWindow w (effectiveRoots w) (some ch.inter) ch.leaf T.pckCertChain ∧
    -- collateral, when fetched
    (o.getCollateral = true → ∃ c : Collateral,
      -- TCB Info and its issuer chain at T.tcbInfo
      T.tcbInfo ≤ c.tcb.nextUpdate ∧ T.tcbInfo ≤ (cert w c.tcbSigner).notAfter ∧ T.tcbInfo ≤ (cert w c.tcbRoot).notAfter ∧
      PathInWindow w (effectiveRoots w) none c.tcbSigner T.tcbInfo ∧
      -- QE Identity and its issuer chain at T.qeIdentity
      T.qeIdentity ≤ c.qe.nextUpdate ∧ T.qeIdentity ≤ (cert w c.qeSigner).notAfter ∧ T.qeIdentity ≤ (cert w c.qeRoot).notAfter ∧
      PathInWindow w (effectiveRoots w) none c.qeSigner T.qeIdentity ∧
      -- CRLs, when revocation is checked: Root CA CRL at T.rootCaCrl; PCK CRL and its issuer chain at T.pckCrl
      (o.checkRevocations = true → ∃ rootCrl cs crt pckCrl, c.rootCrl = some rootCrl ∧ c.pckCrl = some (cs, crt, pckCrl) ∧
        T.rootCaCrl ≤ rootCrl.nextUpdate ∧ T.pckCrl ≤ pckCrl.nextUpdate ∧
        T.pckCrl ≤ (cert w cs).notAfter ∧ T.pckCrl ≤ (cert w crt).notAfter))

/-- **C06, main statement.** -/
theorem accept_implies_in_date (C : Crypto) (w : World) (q : Option QuoteV4) (o : Opts)
    (h : (tdxQuote Fixes.all C w q o).verdict = .ok ()) : InDate w o := by
  obtain ⟨q', ch, ext, col, rfl, _, hch, _, hf, hev⟩ := ((tdxQuote_ok_iff C w q o).mp h).witness
  have hc := chainChecks_all w ch o _ col hev.chain
  refine ⟨ch, hch, hc.rootInDate, hc.interInDate, hc.leafInDate, (pathValid_iff ..).mp hc.anchored, fun hg => ?_⟩
  obtain ⟨_, c, _, _, _, _, d, t, qq⟩ := hev.collateralOk hf hg
  exact ⟨c, d.tcb, d.tcbSigner, d.tcbRoot, (pathValid_iff ..).mp t.response.anchored,
    d.qe, d.qeSigner, d.qeRoot, (pathValid_iff ..).mp qq.response.anchored, d.crls⟩

/-- Each artifact class is judged at its own entry: an expired PCK-chain certificate is fatal exactly at the
    PckCertChain time, whatever the other four entries are. -/
theorem expired_chain_cert_rejected (C : Crypto) (w : World) (q : Option QuoteV4) (o : Opts) (ch : Chain)
    (hch : extractChain w.chainPem = .ok ch)
    (hexp : (cert w ch.root).notAfter < (timesOf w o).pckCertChain ∨ (cert w ch.inter).notAfter < (timesOf w o).pckCertChain ∨
            (cert w ch.leaf).notAfter < (timesOf w o).pckCertChain) :
    (tdxQuote Fixes.all C w q o).verdict ≠ .ok () := by
  intro h
  obtain ⟨ch', hch', a, b, c, _⟩ := (accept_implies_in_date C w q o h).witness
  cases hch.symm.trans hch'
  rcases hexp with e | e | e <;> omega

/-- once a bound is exceeded it stays exceeded at every later time: the step on which the monotonicity of every expiry
    bound of `InDate` rests -/
theorem expired_stays_expired (t t' bound : Int) (hle : t ≤ t') (hexp : bound < t) : bound < t' := by omega

/-- Formal counterpart for a whole call: if a call with time set `T` is rejected *because an expiry bound is exceeded*,
    a call with a pointwise later time set exceeds the same bound; hence it cannot be accepted (by `accept_implies_in_date`).
    Here for the PCK chain; the same argument applies to every bound listed in `InDate`. -/
theorem chain_expiry_monotone (C : Crypto) (w : World) (q : Option QuoteV4) (o o' : Opts) (ch : Chain)
    (hch : extractChain w.chainPem = .ok ch)
    (hlater : (timesOf w o).pckCertChain ≤ (timesOf w o').pckCertChain)
    (hexp : (cert w ch.root).notAfter < (timesOf w o).pckCertChain ∨ (cert w ch.inter).notAfter < (timesOf w o).pckCertChain ∨
            (cert w ch.leaf).notAfter < (timesOf w o).pckCertChain) :
    (tdxQuote Fixes.all C w q o').verdict ≠ .ok () := by
  have later {b : Int} : b < (timesOf w o).pckCertChain → b < (timesOf w o').pckCertChain := expired_stays_expired _ _ _ hlater
  exact expired_chain_cert_rejected C w q o' ch hch (hexp.imp later (Or.imp later later))

/-- collateral artifacts likewise: an expired TCB Info / QE Identity / issuer-chain certificate / CRL is fatal at its own entry -/
theorem expired_collateral_rejected (C : Crypto) (w : World) (q : Option QuoteV4) (o : Opts)
    (hg : o.getCollateral = true)
    (hexp : ∀ c : Collateral,
      c.tcb.nextUpdate < (timesOf w o).tcbInfo ∨ c.qe.nextUpdate < (timesOf w o).qeIdentity ∨
      (cert w c.tcbSigner).notAfter < (timesOf w o).tcbInfo ∨ (cert w c.qeSigner).notAfter < (timesOf w o).qeIdentity ∨
      (cert w c.tcbRoot).notAfter < (timesOf w o).tcbInfo ∨ (cert w c.qeRoot).notAfter < (timesOf w o).qeIdentity) :
    (tdxQuote Fixes.all C w q o).verdict ≠ .ok () := by
  intro h
  obtain ⟨ch, _, _, _, _, _, hc⟩ := (accept_implies_in_date C w q o h).witness
  obtain ⟨c, a1, a2, a3, _, b1, b2, b3, _⟩ := hc hg
  rcases hexp c with e | e | e | e | e | e <;> omega

/-- with no caller-supplied times, all five entries are the clock reading of the call -/
theorem default_times (w : World) (o : Opts) (h : o.now = none) : timesOf w o = defaultTimeSet w.clock := by
  simp [timesOf, h]

end Tdx.Props.C06
