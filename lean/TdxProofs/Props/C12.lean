/-
  C12 — options gate the checks exactly; more checking never accepts more; no history.
-/
import TdxModel.Generated.Sites
import TdxProofs.Lemmas.Verify

namespace Tdx.Props.C12
open Tdx.Abi Tdx.Verify

/-! ### fetches -/

/-- With collateral checking off the verifier performs no fetch at all (whatever else the options say). -/
theorem no_fetch_without_collateral (fx : Fixes) (C : Crypto) (w : World) (q : Option QuoteV4) (o : Opts)
    (h : o.getCollateral = false) : (tdxQuote fx C w q o).urls = [] := by
  rw [tdxQuote_eq_fx]
  split
  · rfl
  · cases prepare w q <;> try rfl
    simp only [finish, fetchStage, h]
    rfl

/-- the URLs of a call are those of the fetch stage for the leaf of the quote's chain -/
theorem urls_are_fetch_stage (C : Crypto) (w : World) (q : Option QuoteV4) (o : Opts) (u : String)
    (hu : u ∈ (tdxQuote Fixes.all C w q o).urls) :
    ∃ q' ch ext, q = some q' ∧ extractChain w.chainPem = .ok ch ∧
      PckExt.pckCertificateExtensions (cert w ch.leaf).pck = .ok ext ∧ u ∈ (fetchStage Fixes.all w o ch ext).1 := by
  rw [tdxQuote_eq rfl] at hu
  cases hp : prepare w q with
  | ok p =>
    obtain ⟨q', ch, ext⟩ := p
    rw [hp] at hu
    obtain ⟨rfl, _, hch, hext⟩ := prepare_ok_iff.mp hp
    exact ⟨q', ch, ext, rfl, hch, hext, hu⟩
  | _ => rw [hp] at hu; cases hu

/-- which URLs the fetch stage can request: the TCB-Info URL for the FMSPC of the leaf's SGX extension, the QE-identity
    URL, and — only with revocation checking — the PCK-CRL URL for the CA that issued the leaf and distribution points of
    the QE-identity issuer root -/
theorem fetch_stage_urls (w : World) (o : Opts) (ch : Chain) (ext : PckExt.PckExtensions) (u : String)
    (hu : u ∈ (fetchStage Fixes.all w o ch ext).1) :
    o.getCollateral = true ∧
    (u = tcbInfoURL ext.fmspc ∨ u = qeIdentityURL ∨
     (o.checkRevocations = true ∧ ∃ ca, extractCa (cert w ch.leaf) = .ok ca ∧
        (u = pckCrlURL ca ∨ ∃ i, u ∈ (cert w i).crlDPs))) :=
  (fetchStage_spec w o ch ext).1 u hu

/-- CRL endpoints are contacted only when revocation checking is on; the TCB-Info request names the FMSPC of the quote's
    PCK certificate and the PCK-CRL request the CA that issued it. -/
theorem requests_are_gated_and_named (C : Crypto) (w : World) (q : Option QuoteV4) (o : Opts) (u : String)
    (hu : u ∈ (tdxQuote Fixes.all C w q o).urls) :
    o.getCollateral = true ∧ ∃ ch ext, extractChain w.chainPem = .ok ch ∧
      PckExt.pckCertificateExtensions (cert w ch.leaf).pck = .ok ext ∧
      (u = tcbInfoURL ext.fmspc ∨ u = qeIdentityURL ∨
       (o.checkRevocations = true ∧ ∃ ca, extractCa (cert w ch.leaf) = .ok ca ∧ (u = pckCrlURL ca ∨ ∃ i, u ∈ (cert w i).crlDPs))) := by
  obtain ⟨q', ch, ext, _, hch, hext, hf⟩ := urls_are_fetch_stage C w q o u hu
  obtain ⟨hg, hcases⟩ := fetch_stage_urls w o ch ext u hf
  exact ⟨hg, ch, ext, hch, hext, hcases⟩

/-- the CA named in the PCK-CRL request is read from the leaf's issuer name -/
theorem ca_is_leaf_issuer (leaf : CertF) (ca : String) (h : extractCa leaf = .ok ca) :
    (leaf.issuerCN = "Intel SGX PCK Platform CA" ∧ ca = "platform") ∨ (leaf.issuerCN = "Intel SGX PCK Processor CA" ∧ ca = "processor") :=
  (extractCa_ensures leaf).of_ok h

/-! ### more checking never accepts more -/

/-- accepted with collateral and revocation checking ⇒ accepted with collateral checking alone -/
theorem revocation_off_still_accepts (C : Crypto) (w : World) (q : Option QuoteV4) (now : Option TimeSet)
    (h : (tdxQuote Fixes.all C w q ⟨true, true, now⟩).verdict = .ok ()) :
    (tdxQuote Fixes.all C w q ⟨false, true, now⟩).verdict = .ok () :=
  accept_weaker C w q ⟨true, true, now⟩ rfl rfl (fun _ => rfl) h

/-- accepted with collateral checking ⇒ accepted with signature and chain checking alone -/
theorem collateral_off_still_accepts (C : Crypto) (w : World) (q : Option QuoteV4) (now : Option TimeSet)
    (h : (tdxQuote Fixes.all C w q ⟨false, true, now⟩).verdict = .ok ()) :
    (tdxQuote Fixes.all C w q ⟨false, false, now⟩).verdict = .ok () :=
  accept_weaker C w q ⟨false, true, now⟩ rfl rfl (fun h => by cases h) h

/-- turning on additional checks never turns a rejection into an acceptance (the two steps chained) -/
theorem more_checks_never_accept_more (C : Crypto) (w : World) (q : Option QuoteV4) (now : Option TimeSet)
    (h : (tdxQuote Fixes.all C w q ⟨true, true, now⟩).verdict = .ok ()) :
    (tdxQuote Fixes.all C w q ⟨false, true, now⟩).verdict = .ok () ∧ (tdxQuote Fixes.all C w q ⟨false, false, now⟩).verdict = .ok () :=
  ⟨revocation_off_still_accepts C w q now h, collateral_off_still_accepts C w q now (revocation_off_still_accepts C w q now h)⟩

/-! ### no history -/

/-- The call leaves the caller's options as it found them, so the verdict of a later call through the same options value
    is the verdict of a fresh one: `tdxQuote` is a function of (world, quote, options) and `Options.Now` — the only
    caller-visible field the code ever assigned — is unchanged. -/
theorem options_unchanged (C : Crypto) (w : World) (q : Option QuoteV4) (o : Opts) :
    (tdxQuote Fixes.all C w q o).nowAfter = o.now := by
  rw [tdxQuote_eq rfl]
  cases prepare w q <;> try rfl
  simp only [finish]
  cases (fetchStage Fixes.all w o _ _).2 <;> rfl

/-- a sequence of calls through one shared options value: each call finds in `Now` what the call before left there -/
def runShared (C : Crypto) : Option TimeSet → List (World × Option QuoteV4 × Bool × Bool) → List (Outcome Unit)
  | _, [] => []
  | now, (w, q, cr, gc) :: rest =>
    let r := tdxQuote Fixes.all C w q ⟨cr, gc, now⟩
    r.verdict :: runShared C r.nowAfter rest

/-- Histories: each call of such a sequence gets the verdict a fresh options value gives it. -/
theorem verdict_independent_of_history (C : Crypto) (now : Option TimeSet) (calls : List (World × Option QuoteV4 × Bool × Bool)) :
    runShared C now calls = calls.map fun c => (tdxQuote Fixes.all C c.1 c.2.1 ⟨c.2.2.1, c.2.2.2, now⟩).verdict := by
  induction calls generalizing now with
  | nil => rfl
  | cons c rest ih =>
    simp only [runShared, List.map_cons, options_unchanged, ih]

/-! ### the pinned tree (finding F9): a defaulted Now is stored in the caller's options -/

/-- with f9 unrepaired, a call that reaches the evidence stage with `Now = nil` leaves `Now` set to the clock reading -/
theorem unfixed_now_after (C : Crypto) (w : World) (q : QuoteV4) (o : Opts) (hn : o.now = none)
    (ch : Chain) (ext : PckExt.PckExtensions) (col : Option Collateral)
    (hc : checkQuoteV4 (some q) = .ok ()) (hch : extractChain w.chainPem = .ok ch)
    (hext : PckExt.pckCertificateExtensions (cert w ch.leaf).pck = .ok ext)
    (hf : (fetchStage { Fixes.all with f9 := false } w o ch ext).2 = .ok col) :
    (tdxQuote { Fixes.all with f9 := false } C w (some q) o).nowAfter = some (defaultTimeSet w.clock) := by
  rw [tdxQuote_of_prepared rfl C o hc hch hext]
  simp only [finish, hf, hn, Option.getD_none]
  rfl

/-- The only state a call can leave behind in the caller's `verify.Options` are the three unexported fields the model's
    `stateAfter` speaks of (chain, PCK extensions, collateral — each overwritten by `tdxQuoteV4` before it is read) and,
    before the repair of F9, `Now`.  Regenerated from the struct definition on every run: a new hidden field (a cache of
    pools, chains or validation results) is new history the theorems above do not cover. -/
theorem hidden_state_is_modelled :
    Tdx.Gen.optionsHiddenFields = [("chain", "*verify.PCKCertificateChain"), ("collateral", "*verify.Collateral"),
                               ("pckCertExtensions", "*pcs.PckExtensions")] := rfl

end Tdx.Props.C12
