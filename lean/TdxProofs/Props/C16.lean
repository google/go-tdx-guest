/-
  C16 — parsing copies, checking never writes: quotes can be shared across goroutines.
  Model-level content: the check-side concatenations write only into buffers allocated during the call (so every
  pre-existing buffer is unchanged up to capacity — there is nothing to race on); tie to the source: the regenerated
  write-site inventory has only fresh destinations, and no parser function lets a field alias its input.
-/
import TdxModel.Generated.Sites
import TdxProofs.Lemmas.Heap

namespace Tdx.Props.C16
open Tdx.Heap

/-- frame lemma: writes that only touch buffers with id ≥ n leave every buffer below n unchanged (to capacity) -/
theorem frame (n : Nat) (ws : List Write) (h : Heap) (hfresh : ∀ w ∈ ws, n ≤ w.1) (j : Nat) (hj : j < n) :
    (ws.foldl Heap.write h).bufs[j]? = h.bufs[j]? := by
  induction ws generalizing h with
  | nil => rfl
  | cons w rest ih =>
    rw [List.foldl_cons, ih (h.write w) fun x hx => hfresh x (List.mem_cons_of_mem _ hx)]
    exact write_other h w j (by have := hfresh w (List.mem_cons_self ..); omega)

/-- `append` on a slice of a buffer with id ≥ n never touches buffers below n, and its result slice lives in a buffer ≥ n -/
theorem append_fresh (h : Heap) (s : Slice) (data : Bytes) (n : Nat) (hs : n ≤ s.buf) (hn : n ≤ h.bufs.length) (j : Nat) (hj : j < n) :
    ((h.append s data).1).bufs[j]? = h.bufs[j]? ∧ n ≤ (h.append s data).2.1.buf ∧ n ≤ ((h.append s data).1).bufs.length :=
  have f := FreshAbove.append ⟨fun _ _ => rfl, hs, hn⟩ data
  ⟨f.same j hj, f.buf, f.len⟩

/-- **verifyHash256 (repaired) writes only into the buffer it allocates**: every buffer that existed before the call —
    the attestation key's, the auth data's, any other — is unchanged, including spare capacity behind a field. -/
theorem concat_key_auth_writes_only_fresh (h : Heap) (key auth : Slice) (j : Nat) (hj : j < h.bufs.length) :
    ((concatKeyAuth h key auth).1).bufs[j]? = h.bufs[j]? := by
  -- unfolded first: as a term (like its two siblings below) the unifier would have to see through the `let`s that take
  -- the results of `alloc` and `append` apart, which is slow
  unfold concatKeyAuth
  simp only
  exact (((FreshAbove.alloc h 0 (key.len + auth.len)).append _).append _).same j hj

/-- the same for the header‖body concatenation and for `applyMask` -/
theorem concat_header_body_writes_only_fresh (h : Heap) (hdr body : Bytes) (j : Nat) (hj : j < h.bufs.length) :
    ((concatHeaderBody h hdr body).1).bufs[j]? = h.bufs[j]? :=
  (((FreshAbove.alloc h hdr.length hdr.length).write 0 hdr rfl).append body).same j hj

theorem apply_mask_writes_only_fresh (h : Heap) (a b : Slice) (j : Nat) (hj : j < h.bufs.length) :
    ((applyMaskH h a b).1).bufs[j]? = h.bufs[j]? :=
  ((FreshAbove.alloc h a.len a.len).write 0 _ rfl).same j hj

/-- `clone` returns a slice of a new buffer (cap = len) holding the same bytes: a parsed quote shares no memory with its input -/
theorem clone_is_fresh_copy (h : Heap) (s : Slice) (hs : s.buf < h.bufs.length) :
    (h.clone s).2.1.buf = h.bufs.length ∧ (h.clone s).2.1.cap = (h.clone s).2.1.len ∧
    (h.clone s).1.read (h.clone s).2.1 = h.read s ∧ ∀ j, j < h.bufs.length → (h.clone s).1.bufs[j]? = h.bufs[j]? := by
  refine ⟨rfl, rfl, ?_, (FreshAbove.clone h s).same⟩
  unfold Heap.clone
  simp only [Heap.read, List.getD_eq_getElem?_getD, List.getElem?_append_right (Nat.le_refl _), Nat.sub_self,
    List.getElem?_cons_zero, Option.getD_some, List.drop_zero]
  exact List.take_of_length_le (Nat.le_refl _)

/-- two calls whose writes avoid every pre-existing buffer commute on those buffers: whatever the interleaving of their
    write operations, the shared buffers read the same — the model-level statement of race freedom -/
theorem readers_commute (n : Nat) (ws1 ws2 : List Write) (h : Heap) (h1 : ∀ w ∈ ws1, n ≤ w.1) (h2 : ∀ w ∈ ws2, n ≤ w.1)
    (inter : List Write) (hperm : inter.Perm (ws1 ++ ws2)) (j : Nat) (hj : j < n) :
    (inter.foldl Heap.write h).bufs[j]? = ((ws1 ++ ws2).foldl Heap.write h).bufs[j]? := by
  have h12 : ∀ w ∈ ws1 ++ ws2, n ≤ w.1 := fun w hw => (List.mem_append.mp hw).elim (h1 w) (h2 w)
  rw [frame n inter h (fun w hw => h12 w (hperm.mem_iff.mp hw)) j hj, frame n _ h h12 j hj]

/-! ### tie to the source: regenerated inventories -/

/-- every byte-write site (append / copy / element store / PutUintNN) of abi.go, verify.go and validate.go has a
    destination that is allocated in the same function (make, literal, fresh result of a serialiser, local array) -/
theorem all_write_sites_fresh :
    ∀ s ∈ Gen.writeSites, (s.1 = "abi/abi.go" ∨ s.1 = "verify/verify.go" ∨ s.1 = "validate/validate.go") → s.2.2.2 = Gen.Dest.fresh := by
  decide +kernel

/-- neither parser entry point (`QuoteToProto`, `quoteToProtoV4`) lets a field of its result alias the bytes it was given:
    the regenerated alias analysis says so for both -/
theorem parser_output_disjoint_from_input :
    (Gen.parserAliasesParam.lookup "quoteToProtoV4" = some false) ∧ (Gen.parserAliasesParam.lookup "QuoteToProto" = some false) := by
  decide +kernel

/-- no function of the parsing, verification, validation, extension-extraction, quote-fetching and retry paths assigns to,
    increments, takes the address of, or calls a pointer-receiver method on a package-level variable (outside `init`):
    there is no package state that concurrent calls could race on, and none that one call could leave for the next
    (lazily filled caches, pools of buffers or hashers, counters).  Regenerated from the source on every run. -/
theorem no_package_state_written : Gen.packageStateWrites = [] := rfl

/-! ### the pinned tree (finding F3): `append(attestKey, qeAuthData...)` writes behind the key -/

/-- a message buffer in which the 4-byte key is followed by spare capacity (here: the bytes `9 9 9 9`), and auth data `1 2` -/
def f3Heap : Heap := ⟨[[7, 7, 7, 7, 9, 9, 9, 9], [1, 2]]⟩
def f3Key : Slice := ⟨0, 0, 4, 8⟩
def f3Auth : Slice := ⟨1, 0, 2, 2⟩

theorem unfixed_witness_hash_append :
    (concatKeyAuthUnfixed f3Heap f3Key f3Auth).1.bufs[0]? = some [7, 7, 7, 7, 1, 2, 9, 9] ∧
    (concatKeyAuth f3Heap f3Key f3Auth).1.bufs[0]? = some [7, 7, 7, 7, 9, 9, 9, 9] := by decide

/-! ### non-vacuity -/
example : (concatKeyAuth f3Heap f3Key f3Auth).1.read (concatKeyAuth f3Heap f3Key f3Auth).2.1 = [7, 7, 7, 7, 1, 2] := by decide

end Tdx.Props.C16
