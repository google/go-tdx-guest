/-
  C02 — trust is anchored only in the configured roots and in PCK-role certificates.
-/
import TdxProofs.Lemmas.Verify

namespace Tdx.Props.C02
open Tdx.Gen Tdx.Abi Tdx.Verify

/-- what acceptance establishes about the embedded certificate chain -/
structure Anchored (w : World) (o : Opts) (ch : Chain) : Prop where
  /-- the chain is exactly three CERTIFICATE blocks (optional single NUL) — it was extracted -/
  extracted : extractChain w.chainPem = .ok ch
  /-- the leaf is an Intel SGX PCK certificate: the PCK subject name and a well-formed SGX extension -/
  leafName : (cert w ch.leaf).subjectCN = "Intel SGX PCK Certificate"
  leafSgx : ∃ ext, PckExt.pckCertificateExtensions (cert w ch.leaf).pck = .ok ext
  /-- … issued and signed by the intermediate CA carried in the quote (Platform CA), itself issued and signed by the
      quote's root (Root CA, self-signed) -/
  leafByInter : Certifies (cert w ch.inter) (cert w ch.leaf)
  interName : (cert w ch.inter).subjectCN = "Intel SGX PCK Platform CA"
  interByRoot : Certifies (cert w ch.root) (cert w ch.inter)
  rootName : (cert w ch.root).subjectCN = "Intel SGX Root CA"
  rootSelfSigned : Certifies (cert w ch.root) (cert w ch.root)
  /-- … and the leaf chains, through that intermediate, to a certificate of the caller's pool (the embedded Intel root
      when no pool is given), every certificate on the path inside its validity period -/
  path : PathOk w (effectiveRoots w) (some ch.inter) ch.leaf ((o.now.getD (defaultTimeSet w.clock)).pckCertChain)

/-- **C02, main statement.** -/
theorem accept_implies_anchored (C : Crypto) (w : World) (q : Option QuoteV4) (o : Opts)
    (h : (tdxQuote Fixes.all C w q o).verdict = .ok ()) : ∃ ch, Anchored w o ch := by
  obtain ⟨q', ch, ext, col, rfl, _, hch, hext, _, hev⟩ := ((tdxQuote_ok_iff C w q o).mp h).witness
  have hc := chainChecks_all w ch o _ col hev.chain
  obtain ⟨_, hp⟩ := (pathValid_iff ..).mp hc.anchored
  exact ⟨ch, hch, hc.leaf.name, ⟨ext, hext⟩, ⟨hc.leaf.issuer, hc.leaf.signed⟩, hc.inter.name,
    ⟨hc.inter.issuer, hc.inter.signed⟩, hc.root.name, ⟨hc.root.issuer, hc.root.signed⟩, hp⟩

/-- the effective pool: exactly the caller's list, or exactly the embedded root when none is given -/
theorem effective_roots (w : World) :
    (w.pool = none → effectiveRoots w = [w.embeddedRoot]) ∧ (∀ p, w.pool = some p → effectiveRoots w = p) := by
  constructor
  · intro h; simp [effectiveRoots, h]
  · intro p h; simp [effectiveRoots, h]

/-- A chain that is perfectly self-consistent under another root — even one with identical names — is rejected:
    if no certificate of the effective pool is the leaf or the intermediate itself, and none of them carries a key that
    signed the leaf or the intermediate, the verdict is not acceptance, whatever the names say. -/
theorem foreign_root_rejected (C : Crypto) (w : World) (q : Option QuoteV4) (o : Opts) (ch : Chain)
    (hch : extractChain w.chainPem = .ok ch)
    (hleaf : ch.leaf ∉ effectiveRoots w) (hinter : ch.inter ∉ effectiveRoots w)
    (hforeign : ∀ r ∈ effectiveRoots w, sigFrom (cert w ch.leaf) (cert w r) = false ∧ sigFrom (cert w ch.inter) (cert w r) = false) :
    (tdxQuote Fixes.all C w q o).verdict ≠ .ok () := by
  intro h
  obtain ⟨ch', a⟩ := accept_implies_anchored C w q o h
  cases hch.symm.trans a.extracted
  cases a.path with
  | isRoot h1 => exact hleaf h1
  | direct r hr hc _ => have := (hforeign r hr).1; rw [hc.2] at this; cases this
  | viaInter i hi _ _ _ top =>
    cases hi
    rcases top with h1 | ⟨r, hr, hc, _⟩
    · exact hinter h1
    · have := (hforeign r hr).2; rw [hc.2] at this; cases this

/-- Role confusion: a "leaf" that is not named as a PCK certificate, or carries no well-formed SGX extension, is
    rejected even if the trusted root issued it. -/
theorem role_confusion_rejected (C : Crypto) (w : World) (q : Option QuoteV4) (o : Opts) (ch : Chain)
    (hch : extractChain w.chainPem = .ok ch)
    (hrole : (cert w ch.leaf).subjectCN ≠ "Intel SGX PCK Certificate" ∨
             (∀ ext, PckExt.pckCertificateExtensions (cert w ch.leaf).pck ≠ .ok ext) ∨
             (cert w ch.inter).subjectCN ≠ "Intel SGX PCK Platform CA") :
    (tdxQuote Fixes.all C w q o).verdict ≠ .ok () := by
  intro h
  obtain ⟨ch', a⟩ := accept_implies_anchored C w q o h
  cases hch.symm.trans a.extracted
  rcases hrole with h1 | h1 | h1
  · exact h1 a.leafName
  · obtain ⟨ext, he⟩ := a.leafSgx; exact h1 ext he
  · exact h1 a.interName

/-- Chain shape: acceptance implies exactly three PEM CERTIFICATE blocks that parse, the first two followed by more
    bytes, and nothing but an optional single NUL after the third. -/
theorem chain_shape (pem : Option PemFacts) (ch : Chain) (h : extractChain pem = .ok ch) :
    ∃ steps b1 b2 b3, pem = some steps ∧ steps[0]? = some (some b1) ∧ steps[1]? = some (some b2) ∧ steps[2]? = some (some b3) ∧
      b1.isCert = true ∧ b2.isCert = true ∧ b3.isCert = true ∧ b1.remLen ≠ 0 ∧ b2.remLen ≠ 0 ∧
      (b3.remLen = 0 ∨ b3.remIsNul = true) ∧
      b1.cert = some ch.leaf ∧ b2.cert = some ch.inter ∧ b3.cert = some ch.root :=
  (extractChain_ensures pem).of_ok h

/-- A root-of-trust configuration trusts exactly the certificates it lists: `rotToPool` yields no pool iff nothing is
    configured, and otherwise a pool whose members are exactly the certificates of the listed bundles. -/
theorem pool_is_exactly_listed (files : List Bundle) (inline : List (List Nat)) :
    (rotToPool files inline = .ok none ↔ files = [] ∧ inline = []) ∧
    (∀ p, rotToPool files inline = .ok (some p) →
      ∀ c, c ∈ p ↔ (∃ b ∈ files, ∃ l, b = some l ∧ c ∈ l) ∨ (∃ l ∈ inline, c ∈ l)) := by
  have hs := rotToPool_ensures files inline
  refine ⟨⟨fun h => ?_, fun ⟨h1, h2⟩ => by rw [h1, h2]; rfl⟩, fun p h c => ?_⟩
  · rcases hs.of_ok h with ⟨_, h⟩ | ⟨h, _⟩
    · exact h
    · cases h
  · rcases hs.of_ok h with ⟨h, _⟩ | ⟨h, _⟩
    · cases h
    · cases h
      simp only [List.mem_append, List.mem_flatten, List.mem_filterMap, id_eq]
      exact or_congr ⟨fun ⟨l, ⟨b, hb, e⟩, hc⟩ => ⟨b, hb, l, e, hc⟩, fun ⟨b, hb, l, e, hc⟩ => ⟨l, ⟨b, hb, e⟩, hc⟩⟩ Iff.rfl

/-- an unreadable or certificate-free bundle is an error, not a silently smaller pool -/
theorem bad_bundle_is_error (files : List Bundle) (inline : List (List Nat))
    (h : none ∈ files ∨ some [] ∈ files ∨ [] ∈ inline) : ∃ e, rotToPool files inline = .err e := by
  refine (rotToPool_ensures files inline).err fun p hp => ?_
  rcases hp with ⟨_, rfl, rfl⟩ | ⟨_, h1, h2, h3⟩
  · simp at h
  · exact h.elim h1 fun h => h.elim h2 h3

/-- the embedded root of trust (`verify/trusted_root.pem`, used when the caller gives no pool) is byte for byte Intel's
    SGX Root CA certificate file as pinned here: the SHA-256 the extractor computes from the source tree on every run
    equals the value written down from the pinned commit (Intel's root, SHA-256 of the PEM file).  A swapped or edited
    embedded anchor breaks this obligation although no generated world chains to it. -/
theorem embedded_root_is_pinned :
    verify_trusted_root_pem_sha256 = "194123d2a18be2beb525d0f0cc10a8998be1e63d7a0ecb723cb194f3e9833912" := rfl

/-! ### non-vacuity -/
example : rotToPool [some [1, 2]] [[3]] = .ok (some [1, 2, 3]) := by decide
example : rotToPool [] [] = .ok none := by decide

end Tdx.Props.C02
