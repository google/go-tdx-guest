/-
  C05 — revoked or unverifiable certificates are never accepted when revocation is on.
-/
import TdxProofs.Lemmas.Verify

namespace Tdx.Props.C05
open Tdx.Abi Tdx.Verify

/-- what acceptance with `CheckRevocations` establishes -/
structure RevocationClean (w : World) (o : Opts) : Prop where
  witness : ∃ (ch : Chain) (c : Collateral) (ca : String) (cs crt : Nat) (pckCrl rootCrl : CrlF),
    extractChain w.chainPem = .ok ch ∧
    -- both CRLs were obtained: the PCK CRL from the PCK-CRL endpoint of the leaf's issuing CA, the Root CA CRL from a
    -- distribution point of the QE-identity issuer root
    (∃ h, w.fetchPckCrl (pckCrlURL ca) = .resp h (some pckCrl)) ∧ extractCa (cert w ch.leaf) = .ok ca ∧
    (∃ u ∈ (cert w c.qeRoot).crlDPs, w.fetchRootCrl u = some (some rootCrl)) ∧
    c.pckCrl = some (cs, crt, pckCrl) ∧ c.rootCrl = some rootCrl ∧
    -- the Root CA CRL is issued and signed by the chain's root, the PCK CRL by the chain's intermediate CA — the issuer of the leaf
    CrlOk rootCrl (cert w ch.root) ∧ CrlOk pckCrl (cert w ch.inter) ∧ pckCrl.issuer = (cert w ch.leaf).issuer ∧
    -- none of the four serials is listed
    (cert w ch.leaf).serial ∉ pckCrl.revoked ∧ (cert w ch.inter).serial ∉ rootCrl.revoked ∧
    (cert w c.tcbSigner).serial ∉ rootCrl.revoked ∧ (cert w c.qeSigner).serial ∉ rootCrl.revoked ∧
    -- and the Root CA CRL is also authentic under the root of each response's issuer chain
    CrlOk rootCrl (cert w c.tcbRoot) ∧ CrlOk rootCrl (cert w c.qeRoot)

/-- **C05, main statement.** -/
theorem revocation_accept_implies (C : Crypto) (w : World) (q : Option QuoteV4) (o : Opts)
    (hcr : o.checkRevocations = true) (h : (tdxQuote Fixes.all C w q o).verdict = .ok ()) :
    o.getCollateral = true ∧ RevocationClean w o := by
  obtain ⟨q', ch, ext, col, rfl, _, hch, _, hf, hev⟩ := ((tdxQuote_ok_iff C w q o).mp h).witness
  obtain ⟨hg, c, rootCrl, cs, crt, pckCrl, rfl, hr, hp, a, b, c1, c2, c3⟩ := (chainChecks_all w ch o _ col hev.chain).revocation hcr
  refine ⟨hg, ?_⟩
  obtain ⟨ca, c', hc', hca, hob, _, _, t, qq⟩ := hev.collateralOk hf hg
  cases hc'
  obtain ⟨hd, cs', crt', pckCrl', rootCrl', f1, _, f3, f4, u, hu, f5⟩ := ((obtainCollateral_ensures ..).2.of_ok hob).crls hcr
  rw [hp] at f3; cases f3
  rw [hr] at f4; cases f4
  obtain ⟨_, crl1, e1, t1, t2⟩ := t.response.revocation hcr
  obtain ⟨_, crl2, e2, q1, q2⟩ := qq.response.revocation hcr
  rw [hr] at e1 e2; cases e1; cases e2
  exact ⟨ch, c, ca, cs, crt, pckCrl, rootCrl, hch, ⟨hd, f1⟩, hca, ⟨u, hu, f5⟩, hp, hr, a, b, c1, c3, c2, t2, q2, t1, q1⟩

/-- Asking for revocation checks without collateral fetching always fails. -/
theorem revocation_without_collateral_rejects (C : Crypto) (w : World) (q : Option QuoteV4) (o : Opts)
    (hcr : o.checkRevocations = true) (hgc : o.getCollateral = false) :
    (tdxQuote Fixes.all C w q o).verdict ≠ .ok () := by
  intro h
  have := (revocation_accept_implies C w q o hcr h).1
  rw [hgc] at this; cases this

/-- what the three rejections about the PCK CRL read: the CRL that was served, for which chain, and what was checked of it -/
theorem RevocationClean.pckCrl {w : World} {o : Opts} (h : RevocationClean w o) :
    ∃ ch ca hd crl, extractChain w.chainPem = .ok ch ∧ w.fetchPckCrl (pckCrlURL ca) = .resp hd (some crl) ∧
      CrlOk crl (cert w ch.inter) ∧ (cert w ch.leaf).serial ∉ crl.revoked := by
  obtain ⟨ch, _, ca, _, _, crl, _, hch, ⟨hd, hf⟩, _, _, _, _, _, hok, _, hnot, _⟩ := h.witness
  exact ⟨ch, ca, hd, crl, hch, hf, hok, hnot⟩

/-- If a CRL cannot be fetched or parsed the quote is rejected: a failing PCK-CRL fetch. -/
theorem pck_crl_unavailable_rejects (C : Crypto) (w : World) (q : Option QuoteV4) (o : Opts)
    (hcr : o.checkRevocations = true)
    (hfail : ∀ ca, w.fetchPckCrl (pckCrlURL ca) = .fail ∨ ∃ h, w.fetchPckCrl (pckCrlURL ca) = .resp h none) :
    (tdxQuote Fixes.all C w q o).verdict ≠ .ok () := by
  intro h
  obtain ⟨_, ca, _, _, _, hf, _⟩ := (revocation_accept_implies C w q o hcr h).2.pckCrl
  rcases hfail ca with h1 | ⟨_, h1⟩ <;> rw [h1] at hf <;> cases hf

/-- … a Root CA CRL that no distribution point delivers in parseable form. -/
theorem root_crl_unavailable_rejects (C : Crypto) (w : World) (q : Option QuoteV4) (o : Opts)
    (hcr : o.checkRevocations = true) (hfail : ∀ u, w.fetchRootCrl u = none ∨ w.fetchRootCrl u = some none) :
    (tdxQuote Fixes.all C w q o).verdict ≠ .ok () := by
  intro h
  obtain ⟨_, ⟨ch, c, ca, cs, crt, pckCrl, rootCrl, _, _, _, ⟨u, _, hf⟩, _⟩⟩ := revocation_accept_implies C w q o hcr h
  rcases hfail u with h1 | h1 <;> rw [h1] at hf <;> cases hf

/-- … a CRL that is not authentic: every CRL the world can deliver as PCK CRL is signed by a key other than the
    intermediate's (or carries another issuer name). -/
theorem unauthentic_pck_crl_rejects (C : Crypto) (w : World) (q : Option QuoteV4) (o : Opts) (ch : Chain)
    (hcr : o.checkRevocations = true) (hch : extractChain w.chainPem = .ok ch)
    (hbad : ∀ ca h crl, w.fetchPckCrl (pckCrlURL ca) = .resp h (some crl) →
      crl.signedBy ≠ (cert w ch.inter).keyId ∨ crl.issuer ≠ (cert w ch.inter).subject) :
    (tdxQuote Fixes.all C w q o).verdict ≠ .ok () := by
  intro h
  obtain ⟨ch', ca, hd, crl, hch', hf, hok, _⟩ := (revocation_accept_implies C w q o hcr h).2.pckCrl
  cases hch.symm.trans hch'
  rcases hbad ca hd crl hf with h1 | h1
  · exact h1 hok.signed.2.1
  · exact h1 hok.issuer

/-- A leaf whose serial is on every PCK CRL the world can serve is rejected when revocations are checked (the scan is
    membership in a list of any length). -/
theorem listed_leaf_rejected (C : Crypto) (w : World) (q : Option QuoteV4) (o : Opts) (ch : Chain)
    (hcr : o.checkRevocations = true) (hch : extractChain w.chainPem = .ok ch)
    (hlisted : ∀ ca h crl, w.fetchPckCrl (pckCrlURL ca) = .resp h (some crl) → (cert w ch.leaf).serial ∈ crl.revoked) :
    (tdxQuote Fixes.all C w q o).verdict ≠ .ok () := by
  intro h
  obtain ⟨ch', ca, hd, crl, hch', hf, _, hnot⟩ := (revocation_accept_implies C w q o hcr h).2.pckCrl
  cases hch.symm.trans hch'
  exact hnot (hlisted ca hd crl hf)

end Tdx.Props.C05
