/-
  Obligations shared by every property whose statement says "the result depends only on the inputs of the call"
  (verdicts, extracted values, relayed bytes, performed operations): the library keeps no state of its own between or
  across calls.  Both lists are regenerated from the source on every run.
-/
import TdxModel.Generated.Sites

namespace Tdx.Props.Shared

/-- no function of the parsing, verification, validation, extension-extraction, quote-fetching, RTMR and retry paths assigns
    to, increments, takes the address of, or calls a pointer-receiver method on a package-level variable (outside `init`):
    no scratch buffer, cache, pool, memo table or counter that one call could leave for the next or that concurrent calls
    could share -/
theorem no_package_state_written : Gen.packageStateWrites = [] := rfl

/-- the only state a call can leave behind in the caller's `verify.Options` are the three unexported fields the model's
    `stateAfter` speaks of; each is overwritten by `tdxQuoteV4` before it is read -/
theorem hidden_option_state_is_modelled :
    Gen.optionsHiddenFields = [("chain", "*verify.PCKCertificateChain"), ("collateral", "*verify.Collateral"),
                               ("pckCertExtensions", "*pcs.PckExtensions")] := rfl

end Tdx.Props.Shared
