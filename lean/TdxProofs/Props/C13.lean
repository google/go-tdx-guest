/-
  C13 — PCK extension values extracted exactly.

  "For every PCK certificate whose SGX extension encodes a PPID, sixteen component SVNs, a PCE SVN,
   a CPU SVN, a PCE-ID and an FMSPC, extraction returns exactly those values, whatever the order of
   the elements; a value that does not fit its field, a wrongly sized octet string, a missing SGX
   extension or malformed ASN.1 yields an error, never a silently wrong value."

  The theorems are about `Tdx.PckExt.pckCertificateExtensions` (TdxModel/PckExt.lean), the
  Go-faithful model of `pcs.PckCertificateExtensions` over the *decoded* ASN.1 tree of the SGX
  extension value; DER decoding itself is `encoding/asn1`'s and is a parameter (the harness
  decodes every generated certificate with `encoding/asn1` and compares model and code).

  Vocabulary (TdxProofs/Lemmas/PckExt.lean):
  * `Vals` / `Vals.WF`   a value assignment: PPID 16 bytes, 16 component bytes (= 0..255 each),
                          PCESVN ≤ 65535, CPUSVN 16 bytes, PCE-ID 2 bytes, FMSPC 6 bytes;
  * `tcbElems v`          the 18 TCB elements `SEQUENCE{OID …2.k, value}` in canonical order;
  * `sgxElems v w tcb`    the PPID / TCB / PCE-ID / FMSPC sub-extensions around a TCB element list
                          `tcb`; `w : Wrap` says for each octet-string item whether its value is the
                          bytes themselves or a DER OCTET STRING of them (O-4b);
  * `Unknown t`           a well-formed sub-extension with any other OID (Intel's certificates carry
                          several: SGX type, platform instance id, configuration …);
  * `SgxIs c sgx`         the first extension of `c` with the SGX id decodes to `SEQUENCE sgx`;
  * `IsTcbItem t tcb`     `t`'s first two fields are the TCB OID and `SEQUENCE tcb`;
  * `WrongSize b n`       neither `b` nor a value wrapped in `b` has `n` bytes;
  * `expected v`          the `PckExtensions` value holding exactly `v` (hex strings for the three items).

  O-4 (DESIGN.md §7) is modelled as the code behaves and is *not* covered by an error theorem: a
  TCB sequence of 18 elements in which a component OID is absent leaves that component 0, an SGX
  sequence of ≥ 4 elements without some item leaves it empty (the examples under "O-4" at the end).
-/
import TdxProofs.Lemmas.PckExt

namespace Tdx.Props.C13
open Tdx.PckExt

/-- **Exactness, order independence.**  For every value assignment `v`, every permutation `tcb` of
    the 18 TCB elements, every permutation `sgx` of the four sub-extensions together with any number
    of unknown sub-extensions, each octet-string item plain or wrapped, and every certificate with
    six extensions whose SGX extension decodes to `SEQUENCE sgx` with nothing after it: extraction
    returns exactly `v`. -/
theorem extraction_exact (v : Vals) (hv : v.WF) (w : Wrap) (tcb sgx extra : List Asn1)
    (hσ : tcb.Perm (tcbElems v)) (hπ : sgx.Perm (sgxElems v w tcb ++ extra)) (hx : ∀ t ∈ extra, Unknown t)
    (c : Cert) (hn : c.exts.length = Gen.pcs_pckCertExtensionSize)
    (hf : findMatchingExtension c.exts oidSgx = some (.tree (.seq sgx) false)) :
    pckCertificateExtensions c = .ok (expected v) := by
  rw [pck_of_sgx hn hf, extractSgxExtensions_perm v hv w tcb sgx extra hσ hπ hx]

/-- **A value that does not fit its field.**  A component element (OID …2.1 – …2.16) whose INTEGER is
    negative or above 255, or a PCESVN element whose INTEGER is negative or above 65535, at any
    position of the TCB sequence of a TCB item at any position of the SGX sequence — whatever else the
    certificate contains — makes extraction fail. -/
theorem out_of_range_is_error (c : Cert) (sgx tcb : List Asn1) (t e : Asn1) (o : List Nat) (x : Int) (rest : List Asn1)
    (hc : SgxIs c sgx) (ht : t ∈ sgx) (htcb : IsTcbItem t tcb) (he : e ∈ tcb)
    (hse : seqElems e = some (.oid o :: .int x :: rest))
    (hbad : ((∃ i, i < nComps ∧ o = compOid (i + 1)) ∧ (x < 0 ∨ x > 255)) ∨ (o = oidPCESvn ∧ (x < 0 ∨ x > 65535))) :
    ∃ m, pckCertificateExtensions c = .err m := by
  refine cert_err_of_bad_tcb_field hc ht htcb he hse fun h s => ?_
  rcases hbad with ⟨⟨i, hi, rfl⟩, hx⟩ | ⟨rfl, hx⟩
  · rw [tcbStep_comp_eq h (compIndex_comp hi), asn1U8, if_pos hx]; exact ⟨_, rfl⟩
  · rw [tcbStep_pce_eq h, asn1U16, if_pos hx]; exact ⟨_, rfl⟩

/-- **A wrongly sized octet string (PPID, PCE-ID, FMSPC).**  An item with one of the three OIDs whose
    OCTET STRING is wrongly sized — neither it nor a value wrapped in it has the item's size — at any
    position of the SGX sequence makes extraction fail. -/
theorem wrong_size_is_error (c : Cert) (sgx : List Asn1) (t : Asn1) (o : List Nat) (b : Bytes) (rest : List Asn1)
    (hc : SgxIs c sgx) (ht : t ∈ sgx) (hse : seqElems t = some (.oid o :: .octets b :: rest))
    (hbad : (o = oidPPID ∧ WrongSize b ppidSize) ∨ (o = oidPCEID ∧ WrongSize b pceidSize) ∨ (o = oidFMSPC ∧ WrongSize b fmspcSize)) :
    ∃ m, pckCertificateExtensions c = .err m := by
  have item : ∀ n, n < 128 → WrongSize b n → ∃ e, extractOctetItem t n = .err e := by
    intro n hn hw
    obtain ⟨e, he⟩ := asn1OctetString_wrongSize hn hw
    exact ⟨e, by simp [extractOctetItem, unmarshalExtension, hse, he]⟩
  refine cert_err_of_bad_field hc ht hse fun h s => ?_
  rcases hbad with ⟨rfl, hw⟩ | ⟨rfl, hw⟩ | ⟨rfl, hw⟩
  · rw [sgxStep_ppid_eq h]; exact err_of_bindO_err (item _ sizes_small.1 hw)
  · rw [sgxStep_pceid_eq h]; exact err_of_bindO_err (item _ sizes_small.2.1 hw)
  · rw [sgxStep_fmspc_eq h]; exact err_of_bindO_err (item _ sizes_small.2.2 hw)

/-- **A wrongly sized CPUSVN.**  (No wrapping tolerance there.) -/
theorem wrong_size_cpusvn_is_error (c : Cert) (sgx tcb : List Asn1) (t e : Asn1) (b : Bytes) (rest : List Asn1)
    (hc : SgxIs c sgx) (ht : t ∈ sgx) (htcb : IsTcbItem t tcb) (he : e ∈ tcb)
    (hse : seqElems e = some (.oid oidCPUSvn :: .octets b :: rest)) (hbad : b.length ≠ cpuSvnSize) :
    ∃ m, pckCertificateExtensions c = .err m :=
  cert_err_of_bad_tcb_field hc ht htcb he hse fun h s => ⟨_, by rw [tcbStep_cpu_octets h, if_pos hbad]⟩

/-- What an octet-string item can yield at all (sizes < 128, as all three are): the value itself when
    it has the wanted size, or the content of the DER OCTET STRING `04 size …` it consists of —
    never anything else ("never a silently wrong value"). -/
theorem octet_item_sound (b r : Bytes) (size : Nat) (hs : size < 128) (h : asn1OctetString b size = .ok r) :
    (b.length = size ∧ r = b) ∨ (r.length = size ∧ b = 4 :: UInt8.ofNat size :: r) :=
  (asn1OctetString_ensures b size).of_ok h hs

/-- **A missing SGX extension.** -/
theorem missing_sgx_extension_is_error (c : Cert) (h : ∀ e ∈ c.exts, e.1 ≠ oidSgx) :
    ∃ m, pckCertificateExtensions c = .err m := by
  have hf : findMatchingExtension c.exts oidSgx = none := by
    unfold findMatchingExtension
    rw [Option.map_eq_none_iff, List.find?_eq_none]
    intro e he
    simpa using h e he
  exact cert_err_of_find hf nofun

/-- A certificate that does not have exactly six extensions is refused. -/
theorem wrong_extension_count_is_error (c : Cert) (h : c.exts.length ≠ Gen.pcs_pckCertExtensionSize) :
    ∃ m, pckCertificateExtensions c = .err m :=
  (pckCertificateExtensions_ensures c).err fun _ h' => h h'.1

/-- **Wrong ASN.1 type in an integer field.**  A component or PCESVN element whose value is not an
    INTEGER (OCTET STRING, ENUMERATED, BOOLEAN, SEQUENCE, anything) makes extraction fail. -/
theorem wrong_type_is_error (c : Cert) (sgx tcb : List Asn1) (t e : Asn1) (o : List Nat) (x : Asn1) (rest : List Asn1)
    (hc : SgxIs c sgx) (ht : t ∈ sgx) (htcb : IsTcbItem t tcb) (he : e ∈ tcb)
    (hse : seqElems e = some (.oid o :: x :: rest))
    (ho : (∃ i, i < nComps ∧ o = compOid (i + 1)) ∨ o = oidPCESvn) (hx : ∀ n, x ≠ .int n) :
    ∃ m, pckCertificateExtensions c = .err m := by
  refine cert_err_of_bad_tcb_field hc ht htcb he hse fun h s => ?_
  rcases ho with ⟨i, hi, rfl⟩ | rfl
  · rw [tcbStep_comp_eq h (compIndex_comp hi)]
    exact err_of_bindO_err ((asn1U8_ensures x).err fun _ ⟨n, hn⟩ => hx n hn)
  · rw [tcbStep_pce_eq h]
    exact err_of_bindO_err ((asn1U16_ensures x).err fun _ ⟨n, hn⟩ => hx n hn)

/-- **Wrong ASN.1 type for CPUSVN**: anything but an OCTET STRING. -/
theorem wrong_type_cpusvn_is_error (c : Cert) (sgx tcb : List Asn1) (t e : Asn1) (x : Asn1) (rest : List Asn1)
    (hc : SgxIs c sgx) (ht : t ∈ sgx) (htcb : IsTcbItem t tcb) (he : e ∈ tcb)
    (hse : seqElems e = some (.oid oidCPUSvn :: x :: rest)) (hx : ∀ b, x ≠ .octets b) :
    ∃ m, pckCertificateExtensions c = .err m :=
  cert_err_of_bad_tcb_field hc ht htcb he hse fun h s => ⟨_, tcbStep_cpu_other h hx s⟩

/-- **Wrong ASN.1 type for PPID / PCE-ID / FMSPC**: a second field that is neither an OCTET STRING nor
    a (well-formed) BOOLEAN `critical` flag — e.g. an INTEGER — makes extraction fail. -/
theorem wrong_type_item_is_error (c : Cert) (sgx : List Asn1) (t : Asn1) (o : List Nat) (x : Asn1) (rest : List Asn1)
    (hc : SgxIs c sgx) (ht : t ∈ sgx) (hse : seqElems t = some (.oid o :: x :: rest))
    (ho : o = oidPPID ∨ o = oidPCEID ∨ o = oidFMSPC) (hx : ∀ b, x ≠ .octets b) (hb : x ≠ .bool true) :
    ∃ m, pckCertificateExtensions c = .err m := by
  have hext : ∃ m, unmarshalExtension t = .err m := (unmarshalExtension_ensures t).err fun _ ⟨_, h⟩ => by
    rw [hse] at h
    rcases h with h | h
    · cases h; exact hb rfl
    · cases h; exact hx _ rfl
  have item : ∀ n, ∃ m, extractOctetItem t n = .err m := fun n => err_of_bindO_err hext
  refine cert_err_of_bad_field hc ht hse fun h s => ?_
  rcases ho with rfl | rfl | rfl
  · rw [sgxStep_ppid_eq h]; exact err_of_bindO_err (item _)
  · rw [sgxStep_pceid_eq h]; exact err_of_bindO_err (item _)
  · rw [sgxStep_fmspc_eq h]; exact err_of_bindO_err (item _)

/-- **Wrong ASN.1 type for the TCB value**: an element with the TCB OID whose value is not a clean
    SEQUENCE makes extraction fail. -/
theorem wrong_type_tcb_is_error (c : Cert) (sgx : List Asn1) (t : Asn1) (x : Asn1) (rest : List Asn1)
    (hc : SgxIs c sgx) (ht : t ∈ sgx) (hse : seqElems t = some (.oid oidTCB :: x :: rest)) (hx : ∀ l, x ≠ .seq l) :
    ∃ m, pckCertificateExtensions c = .err m := by
  refine cert_err_of_bad_field hc ht hse fun h s => ?_
  rw [sgxStep_tcb_eq h]
  refine err_of_bindO_err ((extractTcb_ensures t).err fun _ ⟨_, l, ht', _⟩ => ?_)
  subst ht'
  cases hse
  exact hx l rfl

/-- **Malformed ASN.1.**  Each of the following makes extraction fail: the extension value is not a
    framed TLV; bytes follow the SGX SEQUENCE; the value is not a clean SEQUENCE; some element of the SGX
    sequence is not an AttributeTypeAndValue (not a SEQUENCE, fewer than two fields, first field no
    well-formed OID, second field with content its type rejects or an INTEGER beyond 64 bits); some
    element of the TCB sequence is not one. -/
theorem malformed_asn1_is_error (c : Cert) :
    (findMatchingExtension c.exts oidSgx = some .derError → ∃ m, pckCertificateExtensions c = .err m) ∧
    (∀ t, findMatchingExtension c.exts oidSgx = some (.tree t true) → ∃ m, pckCertificateExtensions c = .err m) ∧
    (∀ t tr, findMatchingExtension c.exts oidSgx = some (.tree t tr) → (∀ l, t ≠ .seq l) → ∃ m, pckCertificateExtensions c = .err m) ∧
    (∀ sgx t, SgxIs c sgx → t ∈ sgx → (∃ m, unmarshalATV t = .err m) → ∃ m, pckCertificateExtensions c = .err m) ∧
    (∀ sgx tcb t e, SgxIs c sgx → t ∈ sgx → IsTcbItem t tcb → e ∈ tcb → (∃ m, unmarshalATV e = .err m) →
      ∃ m, pckCertificateExtensions c = .err m) := by
  refine ⟨?_, ?_, ?_, ?_, ?_⟩
  · exact fun hf => cert_err_of_find hf nofun
  · exact fun t hf => cert_err_of_find hf nofun
  · exact fun t tr hf hns => cert_err_of_find hf fun l e => by cases e; exact hns l rfl
  · intro sgx t hc ht ⟨m, hm⟩
    exact cert_err_of_bad_elem hc ht fun s => ⟨m, sgxStep_atv_err hm s⟩
  · intro sgx tcb t e hc ht htcb he ⟨m, hm⟩
    exact cert_err_of_bad_tcb_elem hc ht htcb he fun s => ⟨m, tcbStep_atv_err hm s⟩

/-- which elements are no AttributeTypeAndValue (the premise of the last two clauses above, spelled out) -/
theorem not_atv_iff (t : Asn1) :
    (∃ m, unmarshalATV t = .err m) ↔ ¬ ∃ o x rest, seqElems t = some (.oid o :: x :: rest) ∧ anyOk x = true := by
  constructor
  · rintro ⟨m, hm⟩ ⟨o, x, rest, hse, hany⟩
    rw [unmarshalATV_fields hse, hany] at hm
    cases hm
  · exact fun h => (unmarshalATV_ensures t).err fun p ⟨rest, hse, hany⟩ => h ⟨p.1, p.2, rest, hse, hany⟩

/-- **No input makes the extraction crash.** -/
theorem extract_never_panics (c : Cert) : pckCertificateExtensions c ≠ .panic :=
  pckCertificateExtensions_ne_panic c

/-- Hence every certificate yields a value or an error. -/
theorem value_or_error (c : Cert) :
    (∃ r, pckCertificateExtensions c = .ok r) ∨ ∃ m, pckCertificateExtensions c = .err m :=
  ne_panic_cases (pckCertificateExtensions_ne_panic c)

/-! ### non-vacuity: a concrete certificate, reversed TCB order, SGX order reversed with the unknown element moved, one unknown
    ENUMERATED sub-extension (as in Intel's certificates), FMSPC wrapped (O-4b) -/

def v0 : Vals :=
  { ppid := [0, 1, 2, 3, 4, 5, 6, 7, 8, 9, 10, 11, 12, 13, 14, 15]
    comps := [5, 5, 2, 2, 3, 1, 0, 3, 128, 200, 255, 127, 0, 0, 9, 1]
    pcesvn := 65535
    cpusvn := [5, 5, 2, 2, 3, 1, 0, 3, 128, 200, 255, 127, 0, 0, 9, 1]
    pceid := [0, 0]
    fmspc := [0x50, 0x80, 0x6f, 0, 0, 0] }

theorem v0_wf : v0.WF := ⟨by decide, by decide, by decide, by decide, by decide, by decide⟩

def w0 : Wrap := { ppid := false, pceid := false, fmspc := true }
def tcb0 : List Asn1 := (tcbElems v0).reverse
def extra0 : List Asn1 := [.seq [.oid (oidSgx ++ [5]), .enum 0]]
def sgx0 : List Asn1 := (extra0 ++ sgxElems v0 w0 tcb0).reverse

def cert0 : Cert :=
  { exts := [([2, 5, 29, 15], .tree .other false), ([2, 5, 29, 19], .tree .other false), ([2, 5, 29, 14], .tree .other false),
             ([2, 5, 29, 35], .tree .other false), ([2, 5, 29, 31], .tree .other false), (oidSgx, .tree (.seq sgx0) false)] }

theorem extra0_unknown : ∀ t ∈ extra0, Unknown t := by
  intro t ht
  simp only [extra0, List.mem_cons, List.not_mem_nil, or_false] at ht
  subst ht
  exact ⟨oidSgx ++ [5], .enum 0, [], rfl, rfl, by decide, by decide, by decide, by decide⟩

/-- the hypotheses of `extraction_exact` are satisfiable, and its conclusion is what evaluating the
    model on the concrete tree gives -/
theorem cert0_extracts : pckCertificateExtensions cert0 = .ok (expected v0) :=
  extraction_exact v0 v0_wf w0 tcb0 sgx0 extra0 (List.reverse_perm _) ((List.reverse_perm _).trans List.perm_append_comm) extra0_unknown cert0 rfl rfl

example : (expected v0).tcb.comps = [5, 5, 2, 2, 3, 1, 0, 3, 128, 200, 255, 127, 0, 0, 9, 1] ∧ (expected v0).tcb.pcesvn = 65535 ∧
    (expected v0).fmspc = "50806f000000" := by decide +kernel

/-- direct evaluation of the model agrees -/
example : pckCertificateExtensions cert0 = .ok (expected v0) := by decide +kernel

/-- `v0`'s certificate with its TCB sequence (`tcb0`: reversed, as in `cert0`) and its SGX sequence (here in canonical
    order, the unknown element last) edited -/
def cert0With (tcbEdit sgxEdit : List Asn1 → List Asn1) (trailing : Bool := false) : Cert :=
  { exts := [([2, 5, 29, 15], .tree .other false), ([2, 5, 29, 19], .tree .other false), ([2, 5, 29, 14], .tree .other false),
             ([2, 5, 29, 35], .tree .other false), ([2, 5, 29, 31], .tree .other false),
             (oidSgx, .tree (.seq (sgxEdit (sgxElems v0 w0 (tcbEdit tcb0) ++ extra0))) trailing)] }

/-- component 9 (position 9 of the reversed sequence `tcb0`) encoded as 256 -/
def tcb256 : List Asn1 := tcb0.take 9 ++ .seq [.oid (compOid 9), .int 256] :: tcb0.drop 10
def certComp256 : Cert := cert0With (fun _ => tcb256) id

/-- `out_of_range_is_error` applies to a concrete certificate (and evaluation agrees) -/
example : ∃ m, pckCertificateExtensions certComp256 = .err m :=
  out_of_range_is_error certComp256 (sgxElems v0 w0 tcb256 ++ extra0) tcb256 (tcbElem tcb256)
    (.seq [.oid (compOid 9), .int 256]) (compOid 9) 256 []
    ⟨false, rfl⟩ (by simp [sgxElems]) ⟨[], rfl⟩ (by simp [tcb256]) rfl (.inl ⟨⟨8, by decide, rfl⟩, by decide⟩)

example : (pckCertificateExtensions certComp256).isErr = true := by decide +kernel

/-! the error theorems on `cert0With` with one element replaced, as instances of those theorems (evaluated are `certComp256`
    above and the vectors that follow this group): −1 and an OCTET STRING for component 9, 65536 for the PCESVN; a 7-byte
    FMSPC, a wrapped 5-byte FMSPC, an INTEGER where the FMSPC octets belong -/

example : (pckCertificateExtensions (cert0With (fun l => l.set 9 (.seq [.oid (compOid 9), .int (-1)])) id)).isErr = true :=
  isErr_of_err <| out_of_range_is_error _ _ _ (tcbElem (tcb0.set 9 _)) (.seq [.oid (compOid 9), .int (-1)]) _ _ []
    ⟨false, rfl⟩ (by simp [sgxElems]) ⟨[], rfl⟩ (List.mem_set (by decide) _) rfl (.inl ⟨⟨8, by decide, rfl⟩, by decide⟩)
example : (pckCertificateExtensions (cert0With (fun l => l.set 1 (.seq [.oid oidPCESvn, .int 65536])) id)).isErr = true :=
  isErr_of_err <| out_of_range_is_error _ _ _ (tcbElem (tcb0.set 1 _)) (.seq [.oid oidPCESvn, .int 65536]) _ _ []
    ⟨false, rfl⟩ (by simp [sgxElems]) ⟨[], rfl⟩ (List.mem_set (by decide) _) rfl (.inr ⟨rfl, by decide⟩)
example : (pckCertificateExtensions (cert0With (fun l => l.set 9 (.seq [.oid (compOid 9), .octets [7]])) id)).isErr = true :=
  isErr_of_err <| wrong_type_is_error _ _ _ (tcbElem (tcb0.set 9 _)) (.seq [.oid (compOid 9), .octets [7]]) _ _ []
    ⟨false, rfl⟩ (by simp [sgxElems]) ⟨[], rfl⟩ (List.mem_set (by decide) _) rfl (.inl ⟨8, by decide, rfl⟩) nofun
example : (pckCertificateExtensions (cert0With id (fun l => l.set 3 (.seq [.oid oidFMSPC, .octets [1, 2, 3, 4, 5, 6, 7]])))).isErr = true :=
  isErr_of_err <| wrong_size_is_error _ _ (.seq [.oid oidFMSPC, .octets [1, 2, 3, 4, 5, 6, 7]]) _ _ []
    ⟨false, rfl⟩ (List.mem_set (by decide) _) rfl (.inr (.inr ⟨rfl, wrongSize_of_length (by decide) (by decide)⟩))
example : (pckCertificateExtensions (cert0With id (fun l => l.set 3 (.seq [.oid oidFMSPC, .octets [4, 5, 1, 2, 3, 4, 5]])))).isErr = true :=
  isErr_of_err <| wrong_size_is_error _ _ (.seq [.oid oidFMSPC, .octets [4, 5, 1, 2, 3, 4, 5]]) _ _ []
    ⟨false, rfl⟩ (List.mem_set (by decide) _) rfl (.inr (.inr ⟨rfl, wrongSize_of_length (by decide) (by decide)⟩))
example : WrongSize [4, 5, 1, 2, 3, 4, 5] fmspcSize := wrongSize_of_length (by decide) (by decide)
example : (pckCertificateExtensions (cert0With id (fun l => l.set 3 (.seq [.oid oidFMSPC, .int 5])))).isErr = true :=
  isErr_of_err <| wrong_type_item_is_error _ _ (.seq [.oid oidFMSPC, .int 5]) _ _ []
    ⟨false, rfl⟩ (List.mem_set (by decide) _) rfl (.inr (.inr rfl)) nofun nofun

/-- trailing bytes; no SGX extension -/
example : (pckCertificateExtensions (cert0With id id true)).isErr = true := by decide +kernel
example : ∃ m, pckCertificateExtensions { exts := cert0.exts.map fun e => (e.1 ++ [1], e.2) } = .err m :=
  missing_sgx_extension_is_error _ (by decide)

/-! ### O-4, as the code behaves: not errors -/

/-- a TCB sequence of 18 elements in which component 9 is replaced by an unknown OID: component 9 is 0 -/
example : (pckCertificateExtensions (cert0With (fun l => l.set 9 (.seq [.oid (compOid 19), .int 77])) id)) =
    .ok { expected v0 with tcb := { expectedTcb v0 with comps := v0.comps.set 8 0 } } := by decide +kernel

/-- an SGX sequence of four elements without FMSPC: the FMSPC is the empty string -/
example : (pckCertificateExtensions (cert0With id (fun l => l.eraseIdx 3))) = .ok { expected v0 with fmspc := "" } := by
  -- the three items present are extracted as in `extraction_exact`, the unknown element is passed over: nothing writes the FMSPC
  rw [pck_of_sgx (sgx := [ppidElem v0 w0, tcbElem tcb0, pceidElem v0 w0, .seq [.oid (oidSgx ++ [5]), .enum 0]]) rfl rfl]
  simp only [extractSgxExtensions, foldO, sgxStep_ppid v0 v0_wf, sgxStep_tcb v0 v0_wf tcb0 (List.reverse_perm _), sgxStep_pceid v0 v0_wf,
    sgxStep_unknown _ (extra0_unknown _ (List.mem_singleton_self _)), bindO_ok]
  rfl

end Tdx.Props.C13
