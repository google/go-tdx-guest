/-
  C04 — TCB status follows Intel's algorithm; only an UpToDate platform and module pass.
-/
import TdxProofs.Lemmas.Verify
import TdxProofs.Lemmas.Tcb

namespace Tdx.Props.C04
open Tdx.Abi Tdx.Verify

/-- the identity fields of the TCB Info match the PCK certificate and the quote -/
structure IdentityMatches (doc : TcbInfoDoc) (t : TdQuoteBody) (ext : PckExt.PckExtensions) : Prop where
  fmspc : foldEq ext.fmspc doc.fmspc = true                 -- case-insensitive
  pceId : ext.pceid = doc.pceId
  seamSigner : doc.modMrsigner = t.mrSignerSeam
  maskSize : doc.modMask.length = t.seamAttributes.length
  seamAttributes : doc.modAttributes = applyMask doc.modMask t.seamAttributes   -- masked SEAMATTRIBUTES

/-- Intel's algorithm as the statement words it -/
def TcbUpToDate (doc : TcbInfoDoc) (tee : Bytes) (pcesvn : Nat) (comps : Bytes) (h2 : 2 ≤ tee.length) : Prop :=
  ∃ platform, FirstMatch comps pcesvn tee doc.levels platform ∧ upToDate platform = true ∧
    (tee[1]'(by omega) > 0 → ∃ m, ModuleLevel doc.identities (tee[0]'(by omega)) (tee[1]'(by omega)) m ∧ upToDate m = true)

/-- **C04, main statement** for `verifyTdQuoteBody`: it succeeds exactly when the identity fields match and the TCB
    algorithm yields UpToDate — for level lists and identity lists of any length. -/
theorem tcb_accept_iff (doc : TcbInfoDoc) (t : TdQuoteBody) (ext : PckExt.PckExtensions) (h2 : 2 ≤ t.teeTcbSvn.length) :
    tdBodyCheck Fixes.all doc t ext = .ok () ↔
      IdentityMatches doc t ext ∧ TcbUpToDate doc t.teeTcbSvn ext.tcb.pcesvn ext.tcb.comps h2 := by
  unfold tdBodyCheck TcbUpToDate
  rw [runChecks_bind_ok_iff, (tcbStatusCheck_decides doc t.teeTcbSvn ext.tcb.pcesvn ext.tcb.comps h2).ok_iff_unit]
  simp only [check_list]
  constructor
  · rintro ⟨a, b, c, d, e, f⟩
    exact ⟨⟨a, b, c, d, e⟩, f⟩
  · rintro ⟨⟨a, b, c, d, e⟩, f⟩
    exact ⟨a, b, c, d, e, f⟩

/-- what `Matches` means, component by component: SGX components and PCE SVN of the PCK certificate, TDX components of
    the quote from index 2 when TEE_TCB_SVN[1] ≠ 0 (from index 0 otherwise) -/
theorem matches_spelled_out (comps : Bytes) (pcesvn : Nat) (tee : Bytes) (l : TcbLevelF) :
    Matches comps pcesvn tee l ↔
      (comps.length = l.sgx.length ∧ ∀ i (h1 : i < comps.length) (h2 : i < l.sgx.length), l.sgx[i] ≤ comps[i].toNat) ∧
      l.pcesvn ≤ pcesvn ∧
      (tee.length = l.tdx.length ∧ ∀ i (h1 : i < tee.length) (h2 : i < l.tdx.length),
        (if (tee[1]?.getD 0) > 0 then 2 else 0) ≤ i → l.tdx[i] ≤ tee[i].toNat) := by
  unfold Matches CompsGe tdxStart
  simp only [Nat.zero_le, true_imp_iff]

/-- **C04 for whole calls.** -/
theorem accept_implies_tcb (C : Crypto) (w : World) (q : Option QuoteV4) (o : Opts)
    (hg : o.getCollateral = true) (h : (tdxQuote Fixes.all C w q o).verdict = .ok ()) :
    ∃ (q' : QuoteV4) (t : TdQuoteBody) (ch : Chain) (ext : PckExt.PckExtensions) (c : Collateral) (h2 : 2 ≤ t.teeTcbSvn.length),
      q = some q' ∧ q'.tdQuoteBody = some t ∧ extractChain w.chainPem = .ok ch ∧
      PckExt.pckCertificateExtensions (cert w ch.leaf).pck = .ok ext ∧
      IdentityMatches c.tcb t ext ∧ TcbUpToDate c.tcb t.teeTcbSvn ext.tcb.pcesvn ext.tcb.comps h2 := by
  obtain ⟨q', ch, ext, col, rfl, hc, hch, hext, hf, hev⟩ := ((tdxQuote_ok_iff C w q o).mp h).witness
  obtain ⟨c, rfl, _⟩ := hev.collateral hg
  have h2 := teeTcbSvn_two_le hc
  obtain ⟨a, b⟩ := (tcb_accept_iff c.tcb q'.body ext h2).mp (hev.tcb c rfl).1
  exact ⟨q', q'.body, ch, ext, c, h2, rfl, (checked hc).present.body, hch, hext, a, b⟩

/-- If no level matches, verification fails … -/
theorem no_match_is_error (doc : TcbInfoDoc) (tee : Bytes) (pcesvn : Nat) (comps : Bytes) (h2 : 2 ≤ tee.length)
    (hnone : ∀ l ∈ doc.levels, ¬ Matches comps pcesvn tee l) :
    ∃ e, tcbStatusCheck Fixes.all doc tee pcesvn comps = .err e :=
  (tcbStatusCheck_decides doc tee pcesvn comps h2).err fun ⟨p, ⟨_, hi, e, hm, _⟩, _⟩ => hnone p (e ▸ List.getElem_mem hi) hm

/-- … and the level-reporting API returns an error rather than an empty level. -/
theorem supported_levels_error_not_empty (doc : TcbInfoDoc) (qe : QeIdDoc) (tee : Bytes) (pcesvn : Nat) (comps : Bytes)
    (isvsvn : Nat) (h2 : 2 ≤ tee.length) (hnone : ∀ l ∈ doc.levels, ¬ Matches comps pcesvn tee l) :
    ∃ e, supportedTcbLevels true Fixes.all doc qe tee pcesvn comps isvsvn = .err e := by
  unfold supportedTcbLevels
  rw [getMatchingTcbLevel_eq comps pcesvn tee doc.levels h2, List.find?_eq_none.mpr (by simpa using hnone)]
  cases qe.levels.find? (fun l => decide (l.isvsvn ≤ isvsvn)) <;> exact ⟨_, rfl⟩

/-! ### the pinned tree: F4 (platform status ignored when the module is consulted) and F5 (errors dropped) -/

def lvl (status : String) : TcbLevelF := { sgx := [], pcesvn := 0, tdx := [0, 0], isvsvn := 0, status := status }
def f4Doc : TcbInfoDoc :=
  { levels := [lvl "OutOfDate"], identities := [{ id := "TDX_01", levels := [lvl "UpToDate"] }] }

/-- platform level OutOfDate, TDX module level UpToDate, TEE_TCB_SVN[1] = 1: accepted by the pinned tree, rejected repaired -/
theorem unfixed_witness_platform_ignored :
    tcbStatusCheck { Fixes.all with f4 := false } f4Doc [0, 1] 0 [] = .ok () ∧
    (tcbStatusCheck Fixes.all f4Doc [0, 1] 0 []).isErr = true := by decide

/-- no level matches: the pinned tree reports success with empty levels -/
theorem unfixed_witness_error_dropped :
    supportedTcbLevels false Fixes.all { levels := [{ sgx := [9], status := "UpToDate" }] } {} [0, 0] 0 [1] 0 = .ok (default, default) ∧
    (supportedTcbLevels true Fixes.all { levels := [{ sgx := [9], status := "UpToDate" }] } {} [0, 0] 0 [1] 0).isErr = true := by decide

/-! ### non-vacuity: a two-level list whose second level is the first match -/
example : tcbStatusCheck Fixes.all
    { levels := [{ sgx := [5], pcesvn := 0, tdx := [0, 0], status := "Revoked" }, { sgx := [3], pcesvn := 0, tdx := [0, 0], status := "UpToDate" }] }
    [0, 0] 7 [4] = .ok () := by decide

end Tdx.Props.C04
