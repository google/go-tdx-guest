/-
  C09 — parsing and serialising quotes are exact inverses on the v4 wire format.
  The lemmas are in TdxProofs/Lemmas/Abi*.lean; the independent specification of the layout (`WellFormed`, `V4Layout`,
  `FieldsAreSlices`, `specParse`) is TdxModel/AbiSpec.lean.
-/
import TdxProofs.Lemmas.AbiInverse
import TdxProofs.Lemmas.AbiLayout
import TdxProofs.Example.Quote

namespace Tdx.Props.C09
open Tdx.Abi Tdx.Gen

/-- `QuoteToProto` accepts only what its version-4 branch accepts -/
theorem quoteToProto_v4 {b : Bytes} {q : QuoteV4} (h : quoteToProto b = .ok q) : quoteToProtoV4' true b = .ok q := by
  obtain ⟨hok, rfl⟩ := (quoteToProto_decides b).ok_iff.mp h
  exact (quoteToProtoV4_decides b).ok hok

/-- For every byte string the parser accepts, serialising the parsed quote reproduces the input
    byte for byte. -/
theorem serialize_parse (b : Bytes) (q : QuoteV4) (h : quoteToProto b = .ok q) :
    quoteToAbiBytes (some q) = .ok b := by
  obtain ⟨wf, rfl⟩ := quoteToProto_ok_iff_wire.mp h
  exact (quoteToAbiBytes_decides q).ok wf.check

/-- …so the header and body that verification re-serialises and signature-checks are exactly
    bytes 0–631 of the input. -/
theorem signed_message_is_prefix (b : Bytes) (q : QuoteV4) (h : quoteToProto b = .ok q) :
    ∃ hb bb, headerToAbiBytes q.header = .ok hb ∧ tdQuoteBodyToAbiBytes q.tdQuoteBody = .ok bb ∧
      hb ++ bb = b.take 632 ∧ 632 ≤ b.length := by
  obtain ⟨wf, rfl⟩ := wire_of_parse h
  obtain ⟨hh, ht, _⟩ := checkQuoteV4_ok_iff.mp wf.check
  exact ⟨_, _, (headerToAbiBytes_decides _).ok hh, (tdQuoteBodyToAbiBytes_decides _).ok ht, (take_wire wf.check).1.symm,
    (take_wire wf.check).2⟩

/-- The regenerated offset table tiles each fixed-size record without gaps or overlaps, in the
    order of the Intel layout (field sizes as prefix sums). A swapped pair of offsets, a changed size
    or a gap fails this `decide`. -/
theorem layout_contiguous :
    -- header: version 2 ‖ key type 2 ‖ TEE type 4 ‖ PCE SVN 2 ‖ QE SVN 2 ‖ vendor id 16 ‖ user data 20
    [abi_headerVersionStart, abi_headerVersionEnd, abi_headerAttestationKeyTypeStart, abi_headerAttestationKeyTypeEnd,
     abi_headerTeeTypeStart, abi_headerTeeTypeEnd, abi_headerPceSvnStart, abi_headerPceSvnEnd, abi_headerQeSvnStart, abi_headerQeSvnEnd,
     abi_headerQeVendorIDStart, abi_headerQeVendorIDEnd, abi_headerUserDataStart, abi_headerUserDataEnd, abi_headerSize]
      = [0, 2, 2, 4, 4, 8, 8, 10, 10, 12, 12, 28, 28, 48, 48] ∧
    -- TD body: TEE_TCB_SVN 16 ‖ MRSEAM 48 ‖ MRSIGNERSEAM 48 ‖ SEAMATTRIBUTES 8 ‖ TDATTRIBUTES 8 ‖ XFAM 8 ‖ MRTD 48 ‖
    --          MRCONFIGID 48 ‖ MROWNER 48 ‖ MROWNERCONFIG 48 ‖ RTMR0–3 4×48 ‖ REPORTDATA 64
    [abi_tdTeeTcbSvnStart, abi_tdTeeTcbSvnEnd, abi_tdMrSeamStart, abi_tdMrSeamEnd, abi_tdMrSignerSeamStart, abi_tdMrSignerSeamEnd,
     abi_tdSeamAttributesStart, abi_tdSeamAttributesEnd, abi_tdAttributesStart, abi_tdAttributesEnd, abi_tdXfamStart, abi_tdXfamEnd,
     abi_tdMrTdStart, abi_tdMrTdEnd, abi_tdMrConfigIDStart, abi_tdMrConfigIDEnd, abi_tdMrOwnerStart, abi_tdMrOwnerEnd,
     abi_tdMrOwnerConfigStart, abi_tdMrOwnerConfigEnd, abi_tdRtmrsStart, abi_tdRtmrsEnd, abi_tdReportDataStart, abi_tdReportDataEnd,
     abi_tdQuoteBodySize, abi_RtmrSize, abi_rtmrsCount]
      = [0, 16, 16, 64, 64, 112, 112, 120, 120, 128, 128, 136, 136, 184, 184, 232, 232, 280, 280, 328, 328, 520, 520, 584, 584, 48, 4] ∧
    -- QE report: CPUSVN 16 ‖ MISCSELECT 4 ‖ reserved 28 ‖ ATTRIBUTES 16 ‖ MRENCLAVE 32 ‖ reserved 32 ‖ MRSIGNER 32 ‖
    --            reserved 96 ‖ ISVPRODID 2 ‖ ISVSVN 2 ‖ reserved 60 ‖ REPORTDATA 64
    [abi_qeCPUSvnStart, abi_qeCPUSvnEnd, abi_qeMiscSelectStart, abi_qeMiscSelectEnd, abi_qeReserved1Start, abi_qeReserved1End,
     abi_qeAttributesStart, abi_qeAttributesEnd, abi_qeMrEnclaveStart, abi_qeMrEnclaveEnd, abi_qeReserved2Start, abi_qeReserved2End,
     abi_qeMrSignerStart, abi_qeMrSignerEnd, abi_qeReserved3Start, abi_qeReserved3End, abi_qeIsvProdIDStart, abi_qeIsvProdIDEnd,
     abi_qeIsvSvnStart, abi_qeIsvSvnEnd, abi_qeReserved4Start, abi_qeReserved4End, abi_qeReportDataStart, abi_qeReportDataEnd, abi_qeReportSize]
      = [0, 16, 16, 20, 20, 48, 48, 64, 64, 96, 96, 128, 128, 160, 160, 256, 256, 258, 258, 260, 260, 320, 320, 384, 384] ∧
    -- quote: header 48 ‖ body 584 ‖ signed-data size 4 ‖ signed data; signed data: signature 64 ‖ key 64 ‖ certification data;
    -- certification data: type 2 ‖ size 4 ‖ data; QE data: report 384 ‖ signature 64 ‖ auth (size 2 ‖ data) ‖ PCK chain (type 2 ‖ size 4 ‖ data)
    [abi_quoteHeaderStart, abi_quoteHeaderEnd, abi_quoteBodyStart, abi_quoteBodyEnd, abi_quoteSignedDataSizeStart, abi_quoteSignedDataSizeEnd,
     abi_quoteSignedDataStart, abi_signedDataSignatureStart, abi_signedDataSignatureEnd, abi_signedDataAttestationKeyStart,
     abi_signedDataAttestationKeyEnd, abi_signedDataCertificationDataStart, abi_certificateDataTypeStart, abi_certificateDataTypeEnd,
     abi_certificateSizeStart, abi_certificateSizeEnd, abi_certificateDataStart, abi_enclaveReportStart, abi_enclaveReportEnd,
     abi_qeReportCertificationDataSignatureStart, abi_qeReportCertificationDataSignatureEnd, abi_qeReportCertificationDataAuthDataStart,
     abi_authDataParsedDataSizeStart, abi_authDataParsedDataSizeEnd, abi_authDataStart, abi_pckCertChainCertificationDataTypeStart,
     abi_pckCertChainCertificationDataTypeEnd, abi_pckCertChainSizeStart, abi_pckCertChainSizeEnd, abi_pckCertChainDataStart]
      = [0, 48, 48, 632, 632, 636, 636, 0, 64, 64, 128, 128, 0, 2, 2, 6, 6, 0, 384, 384, 448, 448, 0, 2, 2, 0, 2, 2, 6, 6] ∧
    -- field sizes used by the structural check, and the format constants
    [abi_qeSvnSize, abi_pceSvnSize, abi_QeVendorIDSize, abi_userDataSize, abi_TeeTcbSvnSize, abi_MrSeamSize, abi_mrSignerSeamSize,
     abi_seamAttributesSize, abi_TdAttributesSize, abi_XfamSize, abi_MrTdSize, abi_MrConfigIDSize, abi_MrOwnerSize, abi_MrOwnerConfigSize,
     abi_ReportDataSize, abi_cpuSvnSize, abi_reserved1Size, abi_attributesSize, abi_mrEnclaveSize, abi_reserved2Size, abi_mrSignerSize,
     abi_reserved3Size, abi_reserved4Size, abi_signatureSize, abi_attestationKeySize,
     abi_QuoteVersion, abi_intelQuoteV4Version, abi_AttestationKeyType, abi_TeeTDX, abi_qeReportCertificationDataType,
     abi_pckReportCertificationDataType, abi_QuoteMinSize]
      = [2, 2, 16, 20, 16, 48, 48, 8, 8, 8, 48, 48, 48, 48, 64, 16, 28, 16, 32, 32, 32, 96, 60, 64, 64, 4, 4, 2, 0x81, 6, 5, 0x3FC] := by
  decide

/-! ### the pinned tree (finding F1): no length guards in front of the variable-length tail -/

/-- a 1020-byte quote with a valid header and signed-data size 0 -/
def f1Witness : Bytes := [4, 0, 2, 0, 0x81, 0, 0, 0] ++ zeros 1012

theorem unfixed_witness_short_signed_data : quoteToProtoUnfixed f1Witness = .panic := by decide +kernel
theorem unfixed_witness_signedData : signedDataToProto false [] = .panic := by decide
theorem unfixed_witness_certificationData : certificationDataToProto false [1, 2, 3] = .panic := by decide
theorem unfixed_witness_authData : qeAuthDataToProto false [0xff, 0xff, 1, 2, 3] = .panic := by decide
theorem unfixed_witness_pckChain : pckCertificateChainToProto false [5, 0] = .panic := by decide

/-! ### the sample quote of the examples (`Example/Quote.lean`)

  The reference parser is run on its wire form, once, in the kernel; what the examples below say of the sample (that the
  parser reads it back, that it is well formed, follows the layout, has its fields at their offsets) follows from that
  run by the theorems they illustrate. -/

theorem sample_spec : specParse sampleBytes = some sampleQuote := by decide +kernel

theorem sample_parse : quoteToProto sampleBytes = .ok sampleQuote := specParse_eq_some_iff.mp sample_spec

/-! ### serialise → parse: every well-formed quote message survives unchanged -/

/-- Every well-formed quote message (`WellFormed`: all sub-messages present, `CheckQuoteV4` accepts, report data 64 bytes,
    32-bit fields in range, the two nested size fields equal to the actual lengths) serialises, and parsing the bytes gives
    back exactly that message (byte fields, numbers and `extraBytes` included). -/
theorem parse_serialize (q : QuoteV4) (wf : WellFormed q) :
    ∃ b, quoteToAbiBytes (some q) = .ok b ∧ quoteToProto b = .ok q :=
  ⟨wire q, (quoteToAbiBytes_decides q).ok wf.check, quoteToProto_wire wf⟩

example : WellFormed sampleQuote := (quoteToProto_ok_iff_wire.mp sample_parse).1

/-- A message that serialises is re-parsed, if at all, into a message with the same wire form: the parser never
    "repairs" or mis-reads what the serialiser wrote. -/
theorem reparse_is_consistent (q q' : QuoteV4) (b : Bytes) (_hc : checkQuoteV4 (some q) = .ok ())
    (_hb : quoteToAbiBytes (some q) = .ok b) (hp : quoteToProto b = .ok q') : quoteToAbiBytes (some q') = .ok b :=
  serialize_parse b q' hp

/-- Inconsistent sizes are rejected, never mis-parsed: a message that passes `CheckQuoteV4` and whose 32-bit fields are
    in range, but whose nested size fields do not equal the actual lengths, serialises to bytes the parser refuses. -/
theorem size_inconsistent_rejected (q : QuoteV4) (b : Bytes) (hc : checkQuoteV4 (some q) = .ok ()) (hr : InRange q)
    (hs : ¬ SizeConsistent q) (hb : quoteToAbiBytes (some q) = .ok b) : ∃ e, quoteToProto b = .err e := by
  have hw : b = wire q := ((quoteToAbiBytes_decides q).ok_iff.mp hb).2
  exact (quoteToProto_decides b).err_iff.mpr fun hok => hs (sizeConsistent_of_reparse hc hr (hw ▸ (quoteToProto_decides b).ok hok))

/-- `sampleQuote` with a signed-data size that is one too large -/
def badSizeQuote : QuoteV4 := { sampleQuote with signedDataSize := 599 }

example : checkQuoteV4 (some badSizeQuote) = .ok () ∧ InRange badSizeQuote ∧ ¬ SizeConsistent badSizeQuote ∧
    (quoteToAbiBytes (some badSizeQuote)).isOk = true := by decide +kernel

/-- For a message that passes `CheckQuoteV4`, has 64 bytes of report data and in-range 32-bit fields, surviving the round
    trip is equivalent to the nested size fields being consistent. -/
theorem roundtrip_iff_sizeConsistent (q : QuoteV4) (hc : checkQuoteV4 (some q) = .ok ())
    (hrd : q.body.reportData.length = 64) (hr : InRange q) :
    (∃ b, quoteToAbiBytes (some q) = .ok b ∧ quoteToProto b = .ok q) ↔ SizeConsistent q := by
  constructor
  · rintro ⟨b, -, hp⟩
    exact (quoteToProto_ok_iff_wire.mp hp).1.sizes
  · intro hs
    exact parse_serialize q ⟨(checked hc).present, hc, hrd, hr, hs⟩

/-! ### the parser accepts exactly the v4 layout -/

/-- The parser accepts exactly the byte strings that follow the v4 layout (`V4Layout`, stated on the bytes alone:
    version 4, key type 2, TEE type 0x81, certification data types 6 and 5, and every nested size field equal to the
    number of bytes actually there). -/
theorem parse_ok_iff_layout (b : Bytes) : (∃ q, quoteToProto b = .ok q) ↔ V4Layout b :=
  (quoteToProto_decides b).exists_ok_iff.trans (quoteOK_iff_layout b)

/-- …and everything else is rejected with an error (never a panic, never a partial result). -/
theorem parse_err_iff_not_layout (b : Bytes) : (∃ e, quoteToProto b = .err e) ↔ ¬ V4Layout b :=
  (quoteToProto_decides b).err_iff.trans (not_congr (quoteOK_iff_layout b))

example : V4Layout sampleBytes := (parse_ok_iff_layout _).mp ⟨_, sample_parse⟩

/-- evaluated once, for the example and for `fixed_rejects_short_signed_data` -/
theorem f1Witness_not_layout : ¬ V4Layout f1Witness := by decide +kernel
example : ¬ V4Layout f1Witness := f1Witness_not_layout

/-- the repaired parser refuses the F1 witness: its signed-data size 0 is below the 134 bytes the layout needs -/
theorem fixed_rejects_short_signed_data : (quoteToProto f1Witness).isErr = true :=
  isErr_of_err ((parse_err_iff_not_layout f1Witness).mpr f1Witness_not_layout)

/-! ### every field of the result is the corresponding slice of the input -/

/-- Every field of an accepted quote is the corresponding absolute slice of the input (numeric fields little-endian);
    all sub-messages are present. -/
theorem fields_are_slices (b : Bytes) (q : QuoteV4) (h : quoteToProto b = .ok q) : FieldsAreSlices b q := by
  obtain ⟨_, rfl⟩ := quoteToProto_ok_iff_abs.mp h
  exact fieldsAreSlices_abs b

/-- The complete input/output relation of the parser: it returns `q` exactly when the bytes follow the layout and `q` is
    the record of slices. -/
theorem parse_ok_iff (b : Bytes) (q : QuoteV4) : quoteToProto b = .ok q ↔ V4Layout b ∧ FieldsAreSlices b q := by
  rw [quoteToProto_ok_iff_abs]
  exact and_congr_right fun _ => ⟨fun e => e ▸ fieldsAreSlices_abs b, eq_abs_of_fieldsAreSlices⟩

example : FieldsAreSlices sampleBytes sampleQuote := fields_are_slices _ _ sample_parse

example : ¬ V4Layout (sampleBytes.take 1233) := by
  -- three bytes short: the 598 bytes of signed data that the size field announces no longer fit
  intro h
  have hfit := h.2.2.2.2.1
  have hn : le32 (sub (sampleBytes.take 1233) 632 636) = 598 := by
    rw [sub, List.take_take]
    exact (fields_are_slices _ _ sample_parse).signedDataSize.symm
  rw [hn, List.length_take] at hfit
  omega

/-- the length from the parse: the 2 extra bytes are what follows byte 636 + 598 -/
example : sampleBytes.length = 1236 ∧ quoteToProto sampleBytes = .ok sampleQuote := by
  have f := fields_are_slices _ _ sample_parse
  have h1 : 598 = sdSizeOf sampleBytes := f.signedDataSize
  have h2 : 2 = (sampleBytes.drop (636 + sdSizeOf sampleBytes)).length := congrArg List.length f.extraBytes
  rw [← h1, List.length_drop] at h2
  exact ⟨by omega, sample_parse⟩

/-- The parser agrees, on every input, with the independent cursor-based reference parser `specParse`
    (TdxModel/AbiSpec.lean: `(name, size)` tables, offsets by prefix sums): same accepted inputs, same result. -/
theorem parse_eq_spec (b : Bytes) : (quoteToProto b).toOption = specParse b :=
  Option.ext fun q => by rw [toOption_eq_some_iff, specParse_eq_some_iff]

/-- the tables of the reference parser have the record sizes of the Intel layout -/
theorem spec_tables_sizes :
    (headerTable.map (·.2)).sum = 48 ∧ (tdBodyTable.map (·.2)).sum = 584 ∧ (qeReportTable.map (·.2)).sum = 384 ∧
    headerTable.length = 7 ∧ tdBodyTable.length = 15 ∧ qeReportTable.length = 12 := by
  decide

example : specParse sampleBytes = some sampleQuote := sample_spec

end Tdx.Props.C09
