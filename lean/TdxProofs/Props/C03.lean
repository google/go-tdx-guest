/-
  C03 — collateral counts only if authentically signed by Intel's TCB signer.
-/
import TdxProofs.Lemmas.Verify

namespace Tdx.Props.C03
open Tdx.Abi Tdx.Verify

/-- one response was used authentically: the values are the decode of exactly the raw member whose bytes verify, under
    the signature field of the same response, with the certificate of the response's issuer chain that is named as the
    TCB signer, issued by the self-signed root named as the Intel root, and chains to the trusted roots -/
structure Authentic {Doc : Type} (C : Crypto) (w : World) (f : FetchF (BodyF Doc)) (signer root : Nat) (doc : Doc) (t : Int) : Prop where
  witness : ∃ h b raw sig,
    f = .resp h b ∧ headerToIssuerChain h = .ok (signer, root) ∧
    b.raw = some raw ∧ b.rawDoc = some doc ∧                                   -- values = decode of the raw member
    isHex128 b.signature = some sig ∧ C.verifyCert signer raw sig = true ∧       -- raw member verifies under the response's signature
    (cert w signer).subjectCN = "Intel SGX TCB Signing" ∧ Certifies (cert w root) (cert w signer) ∧
    (cert w root).subjectCN = "Intel SGX Root CA" ∧ Certifies (cert w root) (cert w root) ∧
    PathOk w (effectiveRoots w) none signer t

/-- **C03, main statement.** Acceptance with collateral checking implies both responses were used authentically and the
    documents carry the expected id, version and a non-empty level list. -/
theorem values_are_signed_values (C : Crypto) (w : World) (q : Option QuoteV4) (o : Opts)
    (hg : o.getCollateral = true) (h : (tdxQuote Fixes.all C w q o).verdict = .ok ()) :
    ∃ (ext : PckExt.PckExtensions) (c : Collateral),
      Authentic C w (w.fetchTcb (tcbInfoURL ext.fmspc)) c.tcbSigner c.tcbRoot c.tcb ((o.now.getD (defaultTimeSet w.clock)).tcbInfo) ∧
      Authentic C w (w.fetchQe qeIdentityURL) c.qeSigner c.qeRoot c.qe ((o.now.getD (defaultTimeSet w.clock)).qeIdentity) ∧
      c.tcb.id = "TDX" ∧ c.tcb.version = 3 ∧ c.tcb.levels ≠ [] ∧
      c.qe.id = "TD_QE" ∧ c.qe.version = 2 ∧ c.qe.levels ≠ [] := by
  obtain ⟨q', ch, ext, col, rfl, _, _, _, hf, hev⟩ := ((tdxQuote_ok_iff C w q o).mp h).witness
  obtain ⟨ca, c, _, _, hob, _, _, t, qq⟩ := hev.collateralOk hf hg
  have ob := (obtainCollateral_ensures ..).2.of_ok hob
  -- a response that was used and passed `verifyResponse` was used authentically
  have auth {Doc : Type} {f : FetchF (BodyF Doc)} {signer root : Nat} {doc : Doc} {sig : String} {raw : Bytes} {zero : Bool}
      {crl : Option CrlF} {t : Int} (hu : ResponseUsed f signer root doc sig raw zero)
      (hr : ResponseOk C w o root signer raw sig crl t) : Authentic C w f signer root doc t := by
    obtain ⟨hd, b, hf, hh, _, hraw, hdoc, rfl, _⟩ := hu
    obtain ⟨sg, hs, hv⟩ := hr.signature
    exact ⟨hd, b, raw, sg, hf, hh, hraw, hdoc, hs, hv, hr.signer.name, ⟨hr.signer.issuer, hr.signer.signed⟩, hr.root.name,
      ⟨hr.root.issuer, hr.root.signed⟩, ((pathValid_iff ..).mp hr.anchored).2⟩
  exact ⟨ext, c, auth ob.tcb t.response, auth ob.qe qq.response, t.id, t.version, t.levels, qq.id, qq.version, qq.levels⟩

/-- Unsigned content elsewhere in the response never replaces the signed values: what the struct-decode of the whole
    body produces (where extra or duplicate members under any spelling land) is not consulted at all. -/
theorem unsigned_members_cannot_replace {Doc : Type} (b : BodyF Doc) (other : Doc) :
    bodyValues Fixes.all { b with structDoc := other } = bodyValues Fixes.all b := by
  rfl

theorem obtainCollateral_congr (w w' : World) (tamperTcb : TcbInfoDoc → TcbInfoDoc) (tamperQe : QeIdDoc → QeIdDoc)
    (hc : w'.certs = w.certs) (hp : w'.fetchPckCrl = w.fetchPckCrl) (hr : w'.fetchRootCrl = w.fetchRootCrl)
    (ht : ∀ u, w'.fetchTcb u = match w.fetchTcb u with
      | .fail => .fail
      | .resp h b => .resp h { b with structDoc := tamperTcb b.structDoc })
    (hq : ∀ u, w'.fetchQe u = match w.fetchQe u with
      | .fail => .fail
      | .resp h b => .resp h { b with structDoc := tamperQe b.structDoc })
    (f ca : String) (cr : Bool) :
    obtainCollateral Fixes.all w' f ca cr = obtainCollateral Fixes.all w f ca cr := by
  have hbase : obtainBase Fixes.all w' f = obtainBase Fixes.all w f := by
    unfold obtainBase
    simp only [ht, hq]
    -- `bodyValues Fixes.all` never reads `structDoc` (`unsigned_members_cannot_replace`), so both sides compute alike
    cases w.fetchTcb (tcbInfoURL f) <;> cases w.fetchQe qeIdentityURL <;> rfl
  unfold obtainCollateral
  simp only [hbase, obtainCrls_congr_world hc hp hr]

/-- … lifted to whole calls: two worlds that differ only in that struct-decode give the same verdict. -/
theorem verdict_ignores_unsigned_content (C : Crypto) (w w' : World) (q : Option QuoteV4) (o : Opts)
    (tamperTcb : TcbInfoDoc → TcbInfoDoc) (tamperQe : QeIdDoc → QeIdDoc)
    (hc : w'.certs = w.certs) (hchain : w'.chainPem = w.chainPem) (hpool : w'.pool = w.pool) (hemb : w'.embeddedRoot = w.embeddedRoot)
    (hclock : w'.clock = w.clock) (hp : w'.fetchPckCrl = w.fetchPckCrl) (hr : w'.fetchRootCrl = w.fetchRootCrl)
    (ht : ∀ u, w'.fetchTcb u = match w.fetchTcb u with
      | .fail => .fail
      | .resp h b => .resp h { b with structDoc := tamperTcb b.structDoc })
    (hq : ∀ u, w'.fetchQe u = match w.fetchQe u with
      | .fail => .fail
      | .resp h b => .resp h { b with structDoc := tamperQe b.structDoc }) :
    (tdxQuote Fixes.all C w' q o).verdict = (tdxQuote Fixes.all C w q o).verdict := by
  have hob := obtainCollateral_congr w w' tamperTcb tamperQe hc hp hr ht hq
  have hprep : prepare w' q = prepare w q := by unfold prepare cert; rw [hchain, hc]
  have hfetch : ∀ ch ext, fetchStage Fixes.all w' o ch ext = fetchStage Fixes.all w o ch ext := by
    intro ch ext
    unfold fetchStage cert
    simp only [hob, hc]
  rw [tdxQuote_verdict rfl, tdxQuote_verdict rfl]
  simp only [hprep, finish, hfetch, hclock, verifyEvidence_congr_world C hc hpool hemb]

/-- If the signature over the raw TCB-info member does not verify under the signer certificate of the response's
    issuer-chain header, the verdict is not acceptance.  (Stated for the TCB info; the QE identity passes through the
    same `responseChecks`.) -/
theorem bad_signature_rejected (C : Crypto) (w : World) (q : Option QuoteV4) (o : Opts) (hg : o.getCollateral = true)
    (hbad : ∀ u h b signer root raw sig, w.fetchTcb u = .resp h b → headerToIssuerChain h = .ok (signer, root) →
      b.raw = some raw → isHex128 b.signature = some sig → C.verifyCert signer raw sig = false) :
    (tdxQuote Fixes.all C w q o).verdict ≠ .ok () := by
  intro h
  obtain ⟨ext, c, ⟨h1, b1, raw, sig, f1, g1, r1, _, e1, v1, _⟩, _⟩ := values_are_signed_values C w q o hg h
  rw [hbad _ h1 b1 _ _ raw sig f1 g1 r1 e1] at v1
  cases v1

/-! ### the pinned tree (finding F6): values taken from the struct-decode of the whole body -/

theorem unfixed_witness_values_from_struct_decode {Doc : Type} (b : BodyF Doc) (raw : Bytes)
    (hs : b.structOk = true) (hr : b.raw = some raw) :
    bodyValues { Fixes.all with f6 := false } b = .ok (b.structDoc, b.signature, raw, b.zero) := by
  unfold bodyValues
  simp [hs, hr]

/-- so with f6 unrepaired an unsigned duplicate member (which lands in `structDoc`) changes the values used -/
theorem unfixed_witness_unsigned_replaces (b : BodyF Nat) (raw : Bytes) (hs : b.structOk = true) (hr : b.raw = some raw)
    (other : Nat) (hne : other ≠ b.structDoc) :
    bodyValues { Fixes.all with f6 := false } { b with structDoc := other } ≠ bodyValues { Fixes.all with f6 := false } b := by
  rw [unfixed_witness_values_from_struct_decode b raw hs hr,
      unfixed_witness_values_from_struct_decode { b with structDoc := other } raw hs hr]
  intro h
  simp only [Outcome.ok.injEq, Prod.mk.injEq] at h
  exact hne h.1

end Tdx.Props.C03
