/-
  C10 — no entry point crashes on untrusted quotes, quote messages or collateral.
  One theorem per public entry point, each for EVERY input; termination is by structural recursion of the model
  functions (no fuel), which is the model-level content of "does not hang".
-/
import TdxProofs.Lemmas.VerifyNoPanic
import TdxProofs.Props.C08
import TdxProofs.Props.C09
import TdxProofs.Props.C13
import TdxProofs.Props.C18

namespace Tdx.Props.C10
open Tdx.Abi Tdx.Verify

/-- abi.QuoteToProto: every byte string -/
theorem QuoteToProto_never_panics (b : Bytes) : quoteToProto b ≠ .panic := (quoteToProto_decides b).ne_panic

/-- abi.QuoteToAbiBytes, abi.CheckQuoteV4 and the exported sub-serialisers: every message (absent sub-messages, fields of
    any length, any number of RTMRs; `none` = typed nil pointer) -/
theorem QuoteToAbiBytes_never_panics (q : Option QuoteV4) : quoteToAbiBytes q ≠ .panic := quoteToAbiBytes_ne_panic q
theorem CheckQuoteV4_never_panics (q : Option QuoteV4) : checkQuoteV4 q ≠ .panic := checkQuoteV4_ne_panic q
theorem HeaderToAbiBytes_never_panics (h : Option Header) : headerToAbiBytes h ≠ .panic := headerToAbiBytes_ne_panic h
theorem TdQuoteBodyToAbiBytes_never_panics (t : Option TdQuoteBody) : tdQuoteBodyToAbiBytes t ≠ .panic := tdQuoteBodyToAbiBytes_ne_panic t
theorem EnclaveReportToAbiBytes_never_panics (r : Option EnclaveReport) : enclaveReportToAbiBytes r ≠ .panic := enclaveReportToAbiBytes_ne_panic r

/-- validate.TdxQuote: every message and every options value -/
theorem validate_TdxQuote_never_panics (q : Option QuoteV4) (o : Option Validate.Options) : Validate.validate q o ≠ .panic :=
  C08.validate_never_panics q o

/-- validate.RawTdxQuote: every byte string -/
theorem validate_RawTdxQuote_never_panics (b : Bytes) (o : Option Validate.Options) :
    (quoteToProto b >>= fun q => Validate.validate (some q) o) ≠ .panic :=
  bind_ne_panic (QuoteToProto_never_panics b) fun q _ => C08.validate_never_panics (some q) o

/-- verify.TdxQuote: every message, every world (arbitrary chain bytes, collateral, CRL and issuer-chain responses as
    decoded by the standard library), every option value — given only that SHA-256 returns 32 bytes -/
theorem verify_TdxQuote_never_panics (C : Crypto) (hsha : ∀ b, (C.sha256 b).length = 32) (w : World) (q : Option QuoteV4) (o : Opts) :
    (tdxQuote Fixes.all C w q o).verdict ≠ .panic := tdxQuote_ne_panic C hsha w q o

/-- verify.RawTdxQuote -/
theorem verify_RawTdxQuote_never_panics (C : Crypto) (hsha : ∀ b, (C.sha256 b).length = 32) (w : World) (b : Bytes) (o : Opts) :
    (quoteToProto b >>= fun q => (tdxQuote Fixes.all C w (some q) o).verdict) ≠ .panic :=
  bind_ne_panic (QuoteToProto_never_panics b) fun q _ => tdxQuote_ne_panic C hsha w (some q) o

/-- verify.ExtractChainFromQuote: every decoding of the chain bytes -/
theorem ExtractChainFromQuote_never_panics (pem : Option PemFacts) : extractChain pem ≠ .panic := extractChain_ne_panic pem

/-- pcs.PckCertificateExtensions: every decoded extension tree -/
theorem PckCertificateExtensions_never_panics (c : PckExt.Cert) : PckExt.pckCertificateExtensions c ≠ .panic :=
  C13.extract_never_panics c

/-- rtmr.GetRtmrsFromTdQuote: every message -/
theorem GetRtmrsFromTdQuote_never_panics (q : Option QuoteV4) : Ccel.getRtmrs true q ≠ .panic := C18.getRtmrs_never_panics q

/-- the TCB-level lookup behind verify.SupportedTcbLevelsFromCollateral (and behind verification): every TEE TCB SVN — of any
    length, also none at all — against every list of levels of any shape; the comparison of one level first -/
theorem tdxSvnGe_never_panics (tee : Bytes) (lvl : List Nat) : tdxSvnGe tee lvl ≠ .panic := by
  unfold tdxSvnGe
  refine ite_ne (ok_ne_panic _) ?_
  split <;> exact ok_ne_panic _

theorem getMatchingTcbLevel_never_panics (comps : Bytes) (pcesvn : Nat) (tee : Bytes) (ls : List TcbLevelF) :
    getMatchingTcbLevel comps pcesvn tee ls ≠ .panic := by
  induction ls with
  | nil => exact ok_ne_panic _
  | cons l rest ih =>
    have hl : levelMatches comps pcesvn tee l ≠ .panic :=
      ite_ne (ok_ne_panic _) (ite_ne (ok_ne_panic _) (tdxSvnGe_never_panics tee l.tdx))
    unfold getMatchingTcbLevel
    -- the arms: the level matches, it does not, the comparison fails, it crashes
    split
    · exact ok_ne_panic _
    · exact ih
    · exact err_ne_panic _
    · exact absurd ‹_› hl

/-- an outcome that is not a panic is a result or an error -/
theorem result_or_error {α : Type} (x : Outcome α) (h : x ≠ .panic) : (∃ a, x = .ok a) ∨ ∃ e, x = .err e :=
  ne_panic_cases h

/-! ### the pinned tree: F1 (parser), F2 (nil header), F7 (short minimum TEE TCB SVN), F12 (nil TD body), F16 (short TEE TCB SVN) -/

/-- F16: a TEE TCB SVN of no bytes (a message without TD quote body) against a level that lists no TDX component -/
theorem unfixed_witness_short_tee_tcb_svn : tdxSvnGeUnfixed [] [] = .panic ∧ tdxSvnGeUnfixed [7] [3] = .panic ∧
    tdxSvnGe [] [] = .ok false ∧ tdxSvnGe [7] [3] = .ok false := by decide

/-- F2: the log statements dereference `quote.Header` before the structural check -/
theorem unfixed_witness_nil_header (C : Crypto) (w : World) (o : Opts) :
    (tdxQuote { Fixes.all with f2 := false } C w (some { (default : QuoteV4) with header := none }) o).verdict = .panic ∧
    (tdxQuote { Fixes.all with f2 := false } C w none o).verdict = .panic := by
  rw [tdxQuote_eq_fx, tdxQuote_eq_fx]
  exact ⟨rfl, rfl⟩

theorem unfixed_witnesses_elsewhere :
    quoteToProtoUnfixed C09.f1Witness = .panic ∧
    Validate.isSvnHigherOrEqualUnfixed (zeros 16) (some [0, 0, 0]) = .panic ∧
    Ccel.getRtmrs false (some { (default : QuoteV4) with tdQuoteBody := none }) = .panic :=
  ⟨C09.unfixed_witness_short_signed_data, C08.unfixed_witness_min_tee_tcb_svn_short, C18.unfixed_witness_nil_body⟩

end Tdx.Props.C10
